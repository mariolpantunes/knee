import Knee.Model.MultiKnee
import Knee.Lemmas.Basic
/-!
The multi-knee work-stack loop and the in-order recursion `multiKneeRec` (C02).  The loop asks the detector only about
ranges that passed the test `r - l > t2`, so everything is proved under the contract on those ranges
(`DetOKLarge t2`, or `DetBound a t2` where the lower bound of the answer matters); `DetOK`, `DetInterior`,
`DetInteriorLarge` enter only through the conversions below.
-/
namespace Knee

/-- Detector contract: the knee is a relative index `≤ len - 2`, so both children
`points[0..k]` and `points[k+1..]` have at least one point and are strictly shorter. -/
def DetOK (det : Nat → Nat → Option Nat) : Prop :=
  ∀ l r k, det l r = some k → k + 2 ≤ r - l

/-- Strict variant: the knee is never the first point of its range. -/
def DetInterior (det : Nat → Nat → Option Nat) : Prop :=
  ∀ l r k, det l r = some k → 1 ≤ k ∧ k + 2 ≤ r - l

def DetOKLarge (t2 : Nat) (det : Nat → Nat → Option Nat) : Prop :=
  ∀ l r k, r - l > t2 → det l r = some k → k + 2 ≤ r - l

def DetInteriorLarge (t2 : Nat) (det : Nat → Nat → Option Nat) : Prop :=
  ∀ l r k, r - l > t2 → det l r = some k → 1 ≤ k ∧ k + 2 ≤ r - l

theorem DetInterior.detOK {det : Nat → Nat → Option Nat} (h : DetInterior det) : DetOK det :=
  fun l r k hk => (h l r k hk).2

theorem DetInteriorLarge.detOKLarge {t2 : Nat} {det : Nat → Nat → Option Nat}
    (h : DetInteriorLarge t2 det) : DetOKLarge t2 det :=
  fun l r k hl hk => (h l r k hl hk).2

theorem DetOK.detOKLarge {det : Nat → Nat → Option Nat} (h : DetOK det) (t2 : Nat) :
    DetOKLarge t2 det :=
  fun l r k _ hk => h l r k hk

theorem DetInterior.detInteriorLarge {det : Nat → Nat → Option Nat} (h : DetInterior det)
    (t2 : Nat) : DetInteriorLarge t2 det :=
  fun l r k _ hk => h l r k hk

/-- `DetInteriorLarge t2` is `DetBound 1 t2` by definition, `DetOKLarge t2` is `DetBound 0 t2` up to
the trivial `0 ≤ k`: one induction serves both. -/
def DetBound (a t2 : Nat) (det : Nat → Nat → Option Nat) : Prop :=
  ∀ l r k, r - l > t2 → det l r = some k → a ≤ k ∧ k + 2 ≤ r - l

theorem DetOKLarge.detBound {t2 : Nat} {det : Nat → Nat → Option Nat} (h : DetOKLarge t2 det) :
    DetBound 0 t2 det :=
  fun l r k hl hk => ⟨k.zero_le, h l r k hl hk⟩

theorem DetInteriorLarge.detBound {t2 : Nat} {det : Nat → Nat → Option Nat}
    (h : DetInteriorLarge t2 det) : DetBound 1 t2 det :=
  h

theorem DetBound.detOKLarge {a t2 : Nat} {det : Nat → Nat → Option Nat} (h : DetBound a t2 det) :
    DetOKLarge t2 det :=
  fun l r k hl hk => (h l r k hl hk).2

theorem sortNats_eq_sortBy (l : List Nat) : sortNats l = sortBy (· ≤ ·) l := by
  rw [sortNats, insertSorted_eq]; rfl

theorem sortNats_of_perm (s l : List Nat) (hs : s.Pairwise (· < ·)) (hperm : l.Perm s) :
    sortNats l = s := by
  rw [sortNats_eq_sortBy]
  exact List.Perm.eq_of_pairwise (le := fun a b : Nat => a ≤ b) (fun _ _ _ _ => Nat.le_antisymm)
    (sortBy_pairwise l (fun _ _ h => h) (fun _ _ h => Nat.le_of_not_le h) fun _ _ _ => Nat.le_trans)
    (hs.imp Nat.le_of_lt) ((sortBy_perm l).trans hperm)

section
variable {det : Nat → Nat → Option Nat} {gate : Nat → Nat → Bool} {t2 n : Nat}

theorem multiKneeRec_succ (f l r : Nat) :
    multiKneeRec det gate t2 (f + 1) l r =
      if r - l > t2 ∧ gate l r = true then
        (match det l r with
          | some k => multiKneeRec det gate t2 f l (l + k + 1) ++ (l + k) :: multiKneeRec det gate t2 f (l + k + 1) r
          | none => [])
      else [] := rfl

theorem multiKneeRec_add_fuel (hc : DetOKLarge t2 det) (d : Nat) {f l r : Nat} (h : r - l ≤ f) :
    multiKneeRec det gate t2 (f + d) l r = multiKneeRec det gate t2 f l r := by
  induction f generalizing l r with
  | zero =>
    cases d with
    | zero => rfl
    | succ d => rw [Nat.zero_add, multiKneeRec_succ, if_neg (by omega)]; rfl
  | succ f ih =>
    rw [Nat.add_right_comm, multiKneeRec_succ, multiKneeRec_succ]
    split
    next hg =>
      cases hd : det l r with
      | none => rfl
      | some k =>
        have := hc l r k hg.1 hd
        simp only
        rw [ih (l := l) (r := l + k + 1) (by omega), ih (l := l + k + 1) (r := r) (by omega)]
    · rfl

theorem multiKneeRec_fuel (hc : DetOKLarge t2 det) (f f' l r : Nat) (hf : r - l ≤ f)
    (hf' : r - l ≤ f') : multiKneeRec det gate t2 f l r = multiKneeRec det gate t2 f' l r := by
  rw [← Nat.add_sub_cancel' hf, ← Nat.add_sub_cancel' hf',
    multiKneeRec_add_fuel hc _ (Nat.le_refl _), multiKneeRec_add_fuel hc _ (Nat.le_refl _)]

theorem multiKneeRec_unfold_large (hc : DetOKLarge t2 det) (l r f : Nat) (hf : r - l ≤ f) :
    multiKneeRec det gate t2 f l r =
      if r - l > t2 ∧ gate l r = true then
        (match det l r with
          | some k => multiKneeRec det gate t2 f l (l + k + 1) ++ (l + k) :: multiKneeRec det gate t2 f (l + k + 1) r
          | none => [])
      else [] := by
  rw [← multiKneeRec_add_fuel hc 1 hf, multiKneeRec_succ]

theorem multiKneeRec_sorted_range_of {a : Nat} (hc : DetBound a t2 det) (f l r : Nat) :
    (multiKneeRec det gate t2 f l r).Pairwise (· < ·) ∧
      ∀ x ∈ multiKneeRec det gate t2 f l r, l + a ≤ x ∧ x + 2 ≤ r := by
  fun_induction multiKneeRec det gate t2 f l r with
  | case2 f l r hg k hd ihL ihR =>
    have hk := hc l r k hg.1 hd
    obtain ⟨hL, hLr⟩ := ihL
    obtain ⟨hR, hRr⟩ := ihR
    simp only [List.pairwise_append, List.pairwise_cons, List.mem_append, List.mem_cons]
    refine ⟨⟨hL, ⟨fun y hy => ?_, hR⟩, fun x hx y hy => ?_⟩, fun x hx => ?_⟩
    · have := hRr y hy; omega
    · have := hLr x hx
      rcases hy with rfl | hy
      · omega
      · have := hRr y hy; omega
    · rcases hx with hx | rfl | hx
      · have := hLr x hx; omega
      · omega
      · have := hRr x hx; omega
  -- no fuel, the test fails, the detector is silent: `[]`
  | _ => simp

theorem multiKneeLoop_cons (f l r : Nat) (st : List (Nat × Nat)) (acc : List Nat) :
    multiKneeLoop det gate t2 (f + 1) ((l, r) :: st) acc =
      if r - l > t2 ∧ gate l r = true then
        match det l r with
        | some k => multiKneeLoop det gate t2 f ((l + k + 1, r) :: (l, l + k + 1) :: st) ((l + k) :: acc)
        | none => multiKneeLoop det gate t2 f st acc
      else multiKneeLoop det gate t2 f st acc := rfl

/-- Big-step form of the loop: a range on top of the stack is worked off in `c` iterations that leave the rest of
the stack alone and put the range's knees in front of `acc` (the knee before its children, the right child first:
hence only a permutation).  A range of `m ≥ 1` points costs at most `2m - 1` iterations; the sizes are written
without subtraction, which is what `omega` is quick on. -/
theorem multiKneeLoop_range (hc : DetOKLarge t2 det) (N l r : Nat) (hlr : l < r) (hN : r ≤ l + N) :
    ∃ c res, c + 1 + 2 * l ≤ 2 * r ∧ res.Perm (multiKneeRec det gate t2 N l r) ∧
      ∀ f st acc, multiKneeLoop det gate t2 (f + c) ((l, r) :: st) acc =
        multiKneeLoop det gate t2 f st (res ++ acc) := by
  induction N generalizing l r with
  | zero => omega
  | succ N ih =>
    rw [multiKneeRec_succ]
    split
    next hg =>
      cases hd : det l r with
      | none => exact ⟨1, [], by omega, .nil, fun f st acc => by rw [multiKneeLoop_cons, if_pos hg, hd]; rfl⟩
      | some k =>
        have hk := hc l r k hg.1 hd
        obtain ⟨cL, L, hcL, hL, eL⟩ := ih l (l + k + 1) (by omega) (by omega)
        obtain ⟨cR, R, hcR, hR, eR⟩ := ih (l + k + 1) r (by omega) (by omega)
        refine ⟨cL + cR + 1, L ++ (R ++ [l + k]), by omega,
          hL.append ((hR.append_right _).trans (List.perm_append_singleton _ _)), fun f st acc => ?_⟩
        rw [← Nat.add_assoc, multiKneeLoop_cons, if_pos hg, hd]
        simp only
        rw [← Nat.add_assoc, eR, eL, List.append_assoc, List.append_assoc, List.singleton_append]
    next hg => exact ⟨1, [], by omega, .nil, fun f st acc => by rw [multiKneeLoop_cons, if_neg hg]; rfl⟩

/-- `+ 1` in the fuel to see the empty stack -/
theorem multiKneeLoop_top (hc : DetOKLarge t2 det) (hn : 1 ≤ n) :
    ∃ res, res.Perm (multiKneeRec det gate t2 n 0 n) ∧
      ∀ f, 2 * n ≤ f → multiKneeLoop det gate t2 f [(0, n)] [] = some res := by
  obtain ⟨c, res, hcn, hp, h⟩ := multiKneeLoop_range (gate := gate) hc n 0 n hn (Nat.le_add_left n 0)
  refine ⟨res, hp, fun f hf => ?_⟩
  obtain ⟨g, rfl⟩ : ∃ g, f = g + 1 + c := ⟨f - 1 - c, by omega⟩
  rw [h, List.append_nil]
  rfl

theorem multiKnee_eq_rec_large (hc : DetOKLarge t2 det) (hn : 1 ≤ n) :
    multiKnee det gate t2 n = some (multiKneeRec det gate t2 n 0 n) := by
  obtain ⟨res, hp, h⟩ := multiKneeLoop_top (gate := gate) hc hn
  rw [multiKnee, h _ (Nat.le_succ _), Option.map_some,
    sortNats_of_perm _ res (multiKneeRec_sorted_range_of hc.detBound n 0 n).1 hp]

theorem multiKnee_sorted_range_of {a : Nat} (hc : DetBound a t2 det) (hn : 1 ≤ n) :
    ∃ ks, multiKnee det gate t2 n = some ks ∧ ks.Pairwise (· < ·) ∧ ∀ x ∈ ks, a ≤ x ∧ x + 2 ≤ n :=
  have hr := multiKneeRec_sorted_range_of (gate := gate) hc n 0 n
  ⟨_, multiKnee_eq_rec_large hc.detOKLarge hn, hr.1, fun x hx => Nat.zero_add a ▸ hr.2 x hx⟩

theorem multiKnee_sorted_range_large (h : DetOKLarge t2 det) (hn : 1 ≤ n) :
    ∃ ks, multiKnee det gate t2 n = some ks ∧ ks.Pairwise (· < ·) ∧ ∀ x ∈ ks, x + 2 ≤ n :=
  (multiKnee_sorted_range_of h.detBound hn).imp fun _ h =>
    ⟨h.1, h.2.1, fun x hx => (h.2.2 x hx).2⟩

theorem multiKnee_interior_large (h : DetInteriorLarge t2 det) (hn : 1 ≤ n) :
    ∃ ks, multiKnee det gate t2 n = some ks ∧ ks.Pairwise (· < ·) ∧
      ∀ x ∈ ks, 1 ≤ x ∧ x + 2 ≤ n :=
  multiKnee_sorted_range_of h.detBound hn

theorem multiKneeRec_top (hc : DetOKLarge t2 det) :
    multiKneeRec det gate t2 n 0 n =
      if n > t2 ∧ gate 0 n = true then
        (match det 0 n with
          | some k => multiKneeRec det gate t2 n 0 (k + 1) ++ k :: multiKneeRec det gate t2 n (k + 1) n
          | none => [])
      else [] := by
  rw [multiKneeRec_unfold_large hc 0 n n (Nat.le_refl _)]
  simp only [Nat.sub_zero, Nat.zero_add]

theorem multiKnee_self_similar_large (h : DetOKLarge t2 det) (h1 : n > t2)
    (h2 : gate 0 n = true) (k : Nat) (hk : det 0 n = some k) :
    multiKnee det gate t2 n =
      some (multiKneeRec det gate t2 n 0 (k + 1) ++ k :: multiKneeRec det gate t2 n (k + 1) n) := by
  rw [multiKnee_eq_rec_large h (Nat.lt_of_le_of_lt t2.zero_le h1), multiKneeRec_top h,
    if_pos ⟨h1, h2⟩, hk]

end

end Knee
