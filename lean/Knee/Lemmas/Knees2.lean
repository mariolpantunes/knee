import Knee.Model.Knees2
/-! Lemmas on `Knee/Model/Knees2.lean` (`zmethod.knees2`, `map_index`) for `Props/X02.lean`.  Core Lean only. -/
namespace Knee

theorem allEq_iff : ∀ (a b : List Nat), a.length = b.length → (allEq a b = true ↔ a = b)
  | [], [], _ => ⟨fun _ => rfl, fun _ => rfl⟩
  | [], _ :: _, h => nomatch h
  | _ :: _, [], h => nomatch h
  | x :: xs, y :: ys, h => by
    rw [allEq, Bool.and_eq_true, beq_iff_eq, allEq_iff xs ys (Nat.succ.inj h), List.cons.injEq]

theorem arrayEqual_iff (a b : List Nat) : arrayEqual a b = true ↔ a = b := by
  unfold arrayEqual
  by_cases h : a.length = b.length
  · simp [h, allEq_iff a b h]
  · have : a ≠ b := fun e => h (by rw [e])
    simp [h, this]

theorem refineRound_sublist (near : Nat → Nat → Bool) (score : List Nat → List Rat) (c : List Nat) :
    (refineRound near score c).Sublist c := List.filter_sublist

theorem refineRound_eq_or_lt (near : Nat → Nat → Bool) (score : List Nat → List Rat) (c : List Nat) :
    refineRound near score c = c ∨ (refineRound near score c).length < c.length := by
  have hs := refineRound_sublist near score c
  by_cases h : (refineRound near score c).length < c.length
  · exact Or.inr h
  · exact Or.inl (hs.eq_of_length_le (Nat.le_of_not_lt h))

section
variable {near : Nat → Nat → Bool} {score : List Nat → List Rat}

theorem iterRound_sublist (j : Nat) (c : List Nat) : (iterRound near score j c).Sublist c := by
  fun_induction iterRound near score j c with
  | case1 => exact List.Sublist.refl _
  | case2 j c ih => exact ih.trans (refineRound_sublist near score c)

theorem iterRound_length_of_decreasing (m : Nat) (c : List Nat)
    (h : ∀ j, j < m → (iterRound near score (j + 1) c).length < (iterRound near score j c).length) :
    m + (iterRound near score m c).length ≤ c.length := by
  induction m with
  | zero => exact Nat.le_of_eq (Nat.zero_add _)
  | succ m ih =>
    have := ih fun j hj => h j (Nat.lt_succ_of_lt hj)
    have := h m (Nat.lt_succ_self m)
    omega

theorem refineLoop_fix {c : List Nat} (h : refineRound near score c = c) (fuel k : Nat) :
    refineLoop near score (fuel + 1) k c = some (c, k + 1, [c]) := by
  rw [refineLoop, if_pos ((arrayEqual_iff _ _).2 h)]

theorem refineLoop_step {c : List Nat} (h : refineRound near score c ≠ c) (fuel k : Nat) :
    refineLoop near score (fuel + 1) k c =
      (refineLoop near score fuel (k + 1) (refineRound near score c)).map fun x => (x.1, x.2.1, c :: x.2.2) := by
  rw [refineLoop, if_neg (mt (arrayEqual_iff _ _).1 h)]
  cases refineLoop near score fuel (k + 1) (refineRound near score c) <;> rfl

/-- `m + 1` is the number of rounds made.  The counter `k0` at entry is general only for the induction: `knees2` starts the loop
with `0`. -/
theorem refineLoop_some {fuel k0 : Nat} {c r : List Nat} {k : Nat} {tr : List (List Nat)}
    (h : refineLoop near score fuel k0 c = some (r, k, tr)) :
    ∃ m, r = iterRound near score m c ∧ k = k0 + m + 1 ∧
      tr = (List.range (m + 1)).map (fun j => iterRound near score j c) ∧
      refineRound near score r = r ∧
      ∀ j, j < m → (iterRound near score (j + 1) c).length < (iterRound near score j c).length := by
  induction fuel generalizing k0 c r k tr with
  | zero => simp [refineLoop] at h
  | succ f ih =>
    by_cases hc : refineRound near score c = c
    · rw [refineLoop_fix hc] at h
      cases h
      exact ⟨0, rfl, rfl, rfl, hc, fun j hj => absurd hj (Nat.not_lt_zero j)⟩
    · rw [refineLoop_step hc] at h
      obtain ⟨⟨r', k', tr'⟩, hrec, h⟩ := Option.map_eq_some_iff.1 h
      simp only [Prod.mk.injEq] at h
      obtain ⟨rfl, rfl, rfl⟩ := h
      obtain ⟨m, rfl, rfl, rfl, hfix, hdec⟩ := ih hrec
      refine ⟨m + 1, rfl, by omega, ?_, hfix, fun j hj => ?_⟩
      · rw [List.range_succ_eq_map (n := m + 1), List.map_cons, List.map_map]; rfl
      · cases j with
        | zero => exact (refineRound_eq_or_lt near score c).resolve_left hc
        | succ j => exact hdec j (Nat.lt_of_succ_lt_succ hj)

theorem refineLoop_result_fixed {fuel k0 : Nat} {c r : List Nat} {k : Nat} {tr : List (List Nat)}
    (h : refineLoop near score fuel k0 c = some (r, k, tr)) : refineRound near score r = r := by
  obtain ⟨_, _, _, _, hfix, _⟩ := refineLoop_some h
  exact hfix

theorem refineLoop_sublist {fuel k0 : Nat} {c r : List Nat} {k : Nat} {tr : List (List Nat)}
    (h : refineLoop near score fuel k0 c = some (r, k, tr)) : r.Sublist c := by
  obtain ⟨m, rfl, _⟩ := refineLoop_some h
  exact iterRound_sublist m c

/-- at least one round, at most one per dropped candidate plus the confirming one -/
theorem refineLoop_rounds {fuel k0 : Nat} {c r : List Nat} {k : Nat} {tr : List (List Nat)}
    (h : refineLoop near score fuel k0 c = some (r, k, tr)) : k0 + 1 ≤ k ∧ k + r.length ≤ k0 + c.length + 1 := by
  obtain ⟨m, rfl, rfl, _, _, hdec⟩ := refineLoop_some h
  have := iterRound_length_of_decreasing m c hdec
  omega

end

theorem outlierCandidates_sublist (v : List Rat) (z : Rat) :
    (outlierCandidates v z).Sublist (List.range v.length) := List.filter_sublist

theorem outlierCandidates_increasing (v : List Rat) (z : Rat) :
    (outlierCandidates v z).Pairwise (· < ·) :=
  List.pairwise_lt_range.sublist (outlierCandidates_sublist v z)

theorem knees2_stages {v : List Rat} {z : Rat} {n : Nat} {h iou : Nat → Rat} {t : Rat}
    {near : Nat → Nat → Bool} {score : List Nat → List Rat} {o : Knees2Out} :
    knees2 v z n h iou t near score = some o ↔
      o.outliers = outlierCandidates v z ∧ o.worst = worstFilter h o.outliers ∧
      o.corner = cornerFilter n iou t o.worst ∧
      refineLoop near score (o.corner.length + 1) 0 o.corner = some (o.result, o.rounds, o.trace) := by
  rw [knees2]
  constructor
  · intro ho
    split at ho
    · exact nomatch ho
    next r k tr hrec =>
      cases ho
      exact ⟨rfl, rfl, rfl, hrec⟩
  · obtain ⟨c0, c1, c2, r, k, tr⟩ := o
    intro ho
    simp only at ho
    obtain ⟨rfl, rfl, rfl, hrec⟩ := ho
    simp only [hrec]

theorem rankCornersGo_eq (dxf : Nat → Nat → Rat) : ∀ (ks : List Nat) (a : Nat),
    rankCornersGo dxf a ks = ((a :: ks).zip ks).map fun g => dxf g.2 g.1
  | [], _ => rfl
  | k :: ks, a => by rw [rankCornersGo, rankCornersGo_eq dxf ks k, List.zip_cons_cons, List.map_cons]

theorem rankCornersGo_length (dxf : Nat → Nat → Rat) (prev : Nat) (ks : List Nat) :
    (rankCornersGo dxf prev ks).length = ks.length := by
  simp [rankCornersGo_eq]

theorem rankCorners_length (dxf : Nat → Nat → Rat) (ks : List Nat) :
    (rankCorners dxf ks).length = ks.length := rankCornersGo_length dxf 0 ks

theorem rankCornersGo_getD (dxf : Nat → Nat → Rat) (prev : Nat) (ks : List Nat) (q : Nat)
    (hq : q < ks.length) :
    (rankCornersGo dxf prev ks)[q]?.getD 0 =
      dxf (ks[q]?.getD 0) (if q = 0 then prev else ks[q - 1]?.getD 0) := by
  rw [rankCornersGo_eq]
  cases q with
  | zero => simp [hq]
  | succ q => simp [hq, Nat.lt_of_succ_lt hq]

theorem bisect_mid {lo hi f : Nat} (hlt : lo < hi) (h2 : hi - lo < f + 1) :
    lo ≤ lo + (hi - lo) / 2 ∧ lo + (hi - lo) / 2 < hi ∧ hi - (lo + (hi - lo) / 2 + 1) < f ∧
      lo + (hi - lo) / 2 - lo < f := by
  omega

/-- No assumption on the keys: sortedness is used once, outside the induction (`map_index_search_spec`).  The two facts are an
invariant relative to an outer range `[lo0, hi0)`, so that they hold vacuously at the start. -/
theorem bisectLeft_inv (key : Nat → Rat) (v : Rat) (lo0 hi0 : Nat) (fuel lo hi : Nat) (h1 : lo ≤ hi) (h2 : hi - lo < fuel)
    (hA : lo0 < lo → key (lo - 1) < v) (hB : hi < hi0 → ¬ key hi < v) :
    lo ≤ bisectLeft key v fuel lo hi ∧ bisectLeft key v fuel lo hi ≤ hi ∧
      (lo0 < bisectLeft key v fuel lo hi → key (bisectLeft key v fuel lo hi - 1) < v) ∧
      (bisectLeft key v fuel lo hi < hi0 → ¬ key (bisectLeft key v fuel lo hi) < v) := by
  fun_induction bisectLeft key v fuel lo hi with
  | case1 => exact absurd h2 (Nat.not_lt_zero _)
  | case2 f lo hi hlt mid hk ih =>
    have hm := bisect_mid hlt h2
    obtain ⟨p1, p⟩ := ih hm.2.1 hm.2.2.1 (fun _ => hk) hB
    exact ⟨Nat.le_trans hm.1 (Nat.le_of_succ_le p1), p⟩
  | case3 f lo hi hlt mid hk ih =>
    have hm := bisect_mid hlt h2
    obtain ⟨p1, p2, p⟩ := ih hm.1 hm.2.2.2 hA (fun _ => hk)
    exact ⟨p1, Nat.le_trans p2 (Nat.le_of_lt hm.2.1), p⟩
  | case4 f lo hi hlt =>
    obtain rfl : lo = hi := Nat.le_antisymm h1 (Nat.le_of_not_lt hlt)
    exact ⟨Nat.le_refl _, Nat.le_refl _, hA, hB⟩

theorem mapIndex_cons (a : List Rat) (sigma : List Nat) (v : Rat) (vs : List Rat) :
    mapIndex a sigma (v :: vs) =
      (sigma[searchLeft a sigma v]?).bind fun i => (mapIndex a sigma vs).map (i :: ·) := by
  rw [mapIndex]
  cases sigma[searchLeft a sigma v]? with
  | none => rfl
  | some i => cases mapIndex a sigma vs <;> rfl

theorem mapIndex_eq_none_iff (a : List Rat) (sigma : List Nat) (b : List Rat) :
    mapIndex a sigma b = none ↔ ∃ v ∈ b, sigma[searchLeft a sigma v]? = none := by
  induction b with
  | nil => simp [mapIndex]
  | cons w ws ih =>
    rw [mapIndex_cons, Option.bind_eq_none_iff]
    simp only [Option.map_eq_none_iff, ih, List.mem_cons, exists_eq_or_imp]
    cases sigma[searchLeft a sigma w]? <;> simp

end Knee
