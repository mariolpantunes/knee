/-!
Stable insertion sort.  The model sorts by insertion in seven places (`insertKeyed`, `insertSorted`, `insertRow`,
`insertDesc`, `insertRat`, `insertAng`, `insertByZ`, with `sort*` wrappers that fold from the left, from the right or
recurse); each is `insertBy p` for some comparison `p` (`eq_insertBy`), its wrapper `sortBy p` or `sortByL p`, and takes
its permutation and sortedness facts from here.  (`insertByX` and `insertUniq` overwrite or drop equal keys and are not
instances.)  Core Lean only.
-/
namespace Knee

variable {α : Type} (p : α → α → Prop) [DecidableRel p]

/-- insert `x` in front of the first `y` with `p x y` -/
def insertBy (x : α) : List α → List α
  | [] => [x]
  | y :: ys => if p x y then x :: y :: ys else y :: insertBy x ys

/-- `l.foldr insert []`; the recursive `sort (x :: xs) = insert x (sort xs)` is the same function -/
def sortBy (l : List α) : List α := l.foldr (insertBy p) []

def sortByL (l : List α) : List α := l.foldl (fun acc x => insertBy p x acc) []

variable {p} in
theorem eq_insertBy {f : α → List α → List α} (hnil : ∀ x, f x [] = [x])
    (hcons : ∀ x y ys, f x (y :: ys) = if p x y then x :: y :: ys else y :: f x ys) : f = insertBy p := by
  funext x l
  induction l with
  | nil => exact hnil x
  | cons y ys ih => rw [hcons, ih]; rfl

variable {p}

theorem insertBy_cons_pos {x y : α} (h : p x y) (ys : List α) : insertBy p x (y :: ys) = x :: y :: ys :=
  if_pos h

theorem insertBy_cons_neg {x y : α} (h : ¬ p x y) (ys : List α) :
    insertBy p x (y :: ys) = y :: insertBy p x ys :=
  if_neg h

theorem insertBy_append {x : α} {A : List α} (h : ∀ y ∈ A, ¬ p x y) (l : List α) :
    insertBy p x (A ++ l) = A ++ insertBy p x l := by
  induction A with
  | nil => rfl
  | cons a A ih =>
    rw [List.cons_append, insertBy_cons_neg (h a (by simp)), ih fun y hy => h y (by simp [hy]), List.cons_append]

theorem insertBy_perm (x : α) (l : List α) : (insertBy p x l).Perm (x :: l) := by
  induction l with
  | nil => exact .refl _
  | cons y ys ih =>
    simp only [insertBy]
    split
    · exact .refl _
    · exact (ih.cons y).trans (.swap x y ys)

theorem mem_insertBy {x y : α} {l : List α} : y ∈ insertBy p x l ↔ y = x ∨ y ∈ l := by
  rw [(insertBy_perm x l).mem_iff, List.mem_cons]

theorem length_insertBy (x : α) (l : List α) : (insertBy p x l).length = l.length + 1 :=
  (insertBy_perm x l).length_eq

theorem sublist_insertBy (x : α) (l : List α) : l.Sublist (insertBy p x l) := by
  induction l with
  | nil => exact List.nil_sublist _
  | cons y ys ih =>
    simp only [insertBy]
    split
    · exact List.sublist_cons_self _ _
    · exact ih.cons_cons y

theorem insertBy_pairwise {R : α → α → Prop} {x : α} {l : List α} (h : l.Pairwise R)
    (hp : ∀ y ∈ l, p x y → R x y) (hn : ∀ y ∈ l, ¬ p x y → R y x)
    (htrans : ∀ y ∈ l, ∀ z ∈ l, R x y → R y z → R x z) : (insertBy p x l).Pairwise R := by
  induction l with
  | nil => simp [insertBy]
  | cons y ys ih =>
    have hy := List.pairwise_cons.mp h
    simp only [insertBy]
    split
    · rename_i hxy
      have hxy := hp y (by simp) hxy
      refine .cons (fun z hz => ?_) h
      rcases List.mem_cons.mp hz with rfl | hz
      · exact hxy
      · exact htrans y (by simp) z (by simp [hz]) hxy (hy.1 z hz)
    · rename_i hxy
      refine .cons (fun z hz => ?_) (ih hy.2 (fun z hz => hp z (by simp [hz])) (fun z hz => hn z (by simp [hz]))
        fun a ha b hb => htrans a (by simp [ha]) b (by simp [hb]))
      rcases mem_insertBy.mp hz with rfl | hz
      · exact hn y (by simp) hxy
      · exact hy.1 z hz

theorem sortBy_cons (x : α) (xs : List α) : sortBy p (x :: xs) = insertBy p x (sortBy p xs) := rfl

theorem sortByL_eq (l : List α) : sortByL p l = sortBy p l.reverse := by
  simp [sortByL, sortBy, List.foldr_reverse]

theorem sortBy_perm (l : List α) : (sortBy p l).Perm l := by
  induction l with
  | nil => exact .refl _
  | cons x xs ih => exact (insertBy_perm x _).trans (ih.cons x)

theorem sortByL_perm (l : List α) : (sortByL p l).Perm l :=
  sortByL_eq (p := p) l ▸ (sortBy_perm _).trans l.reverse_perm

variable {R : α → α → Prop}

/-- Sorting `l` gives an `R`-sorted list if `p` decides `R` and `R` is transitive on the elements concerned
(a comparison may be an order on part of the type only, as the angular one is on a half-plane).
The list comes first: the goal then fixes `p` and `R` before the three order facts are elaborated. -/
theorem sortBy_pairwise_of_mem {S : α → Prop} (l : List α) (hl : ∀ x ∈ l, S x)
    (hp : ∀ x y, S x → S y → p x y → R x y) (hn : ∀ x y, S x → S y → ¬ p x y → R y x)
    (htrans : ∀ x y z, S x → S y → S z → R x y → R y z → R x z) : (sortBy p l).Pairwise R := by
  induction l with
  | nil => exact .nil
  | cons x xs ih =>
    have hS : ∀ y ∈ sortBy p xs, S y := fun y hy => hl y (by simp [(sortBy_perm xs).mem_iff.mp hy])
    have hx := hl x (by simp)
    exact insertBy_pairwise (ih fun y hy => hl y (by simp [hy])) (fun y hy => hp x y hx (hS y hy))
      (fun y hy => hn x y hx (hS y hy)) fun y hy z hz => htrans x y z hx (hS y hy) (hS z hz)

theorem sortByL_pairwise_of_mem {S : α → Prop} (l : List α) (hl : ∀ x ∈ l, S x)
    (hp : ∀ x y, S x → S y → p x y → R x y) (hn : ∀ x y, S x → S y → ¬ p x y → R y x)
    (htrans : ∀ x y z, S x → S y → S z → R x y → R y z → R x z) : (sortByL p l).Pairwise R :=
  sortByL_eq (p := p) l ▸ sortBy_pairwise_of_mem _ (fun x hx => hl x (List.mem_reverse.mp hx)) hp hn htrans

theorem sortBy_pairwise (l : List α) (hp : ∀ x y, p x y → R x y) (hn : ∀ x y, ¬ p x y → R y x)
    (htrans : ∀ a b c, R a b → R b c → R a c) : (sortBy p l).Pairwise R :=
  sortBy_pairwise_of_mem (S := fun _ => True) l (fun _ _ => trivial) (fun x y _ _ => hp x y)
    (fun x y _ _ => hn x y) fun a b c _ _ _ => htrans a b c

theorem sortByL_pairwise (l : List α) (hp : ∀ x y, p x y → R x y) (hn : ∀ x y, ¬ p x y → R y x)
    (htrans : ∀ a b c, R a b → R b c → R a c) : (sortByL p l).Pairwise R :=
  sortByL_eq (p := p) l ▸ sortBy_pairwise _ hp hn htrans

end Knee
