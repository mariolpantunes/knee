import Knee.Lemmas.Graham
/-!
The chain scan on a sequence weakly sorted by angle about its first point (`AngSorted`): the three order facts
that the support invariant `hullScan_sup` needs; the chain `hullD` of `graham_scan` is closed by one more
supporting edge (`hullD_closed`); a popped point is not extreme (`NotExt`, `hullD_keep`).
-/
namespace Knee

section Deg
variable {pt : Nat → P2} {n : Nat} (hA : AngSorted pt n)
include hA

theorem angSorted_pop {a b i : Nat} (hab : a < b) (hbi : b < i) (hi : i < n)
    (hc : ccw (pt a) (pt b) (pt i) ≤ 0)
    (hsup : ∀ k, k < i → 0 ≤ ccw (pt a) (pt b) (pt k))
    (ht : ∀ k, b ≤ k → k ≤ i → 0 ≤ ccw (pt b) (pt i) (pt k)) :
    ∀ k, a ≤ k → k ≤ i → 0 ≤ ccw (pt a) (pt i) (pt k) := by
  intro k hak hki
  rcases Nat.eq_zero_or_pos a with rfl | ha1
  · -- `b` is popped from directly above the pivot: `i` is on the ray through `b`
    refine ((hA.tie hab hbi hi hc).left _).2 ?_
    rcases Nat.lt_or_eq_of_le hki with h | rfl
    · exact hsup k h
    · exact hA.weak b k hab hbi hi
  · rcases (hA.weak a b ha1 hab (hbi.trans hi)).eq_or_lt with hz | hpos
    · -- `a`, `b` on one ray: then `i` is on it as well
      have hai := hA.tie ha1 (hab.trans hbi) hi
        (((hA.tie ha1 hab (hbi.trans hi) hz.symm.le).beyond_nonpos _).1 hc)
      exact (hai.beyond _).2 (hA.le hak (hki.trans_lt hi))
    · by_cases hkb : k ≤ b
      · exact ccw_pop_left (pt 0) 1 (pivotSide_one_pos hpos)
          (hA.pivotSide_nonneg (hab.trans hbi).le hi) (hA.pivotSide_nonneg hak (hki.trans_lt hi))
          (hsup k (hkb.trans_lt hbi)) hc
      · have hb1 : 1 ≤ b := Nat.zero_lt_of_lt hab
        have hbk : b < k := Nat.lt_of_not_le hkb
        rcases (hA.weak b i hb1 hbi hi).eq_or_lt with hz | hpos'
        · -- `b`, `i` on one ray: so is every `k` between them
          rcases Nat.lt_or_eq_of_le hki with hlt | rfl
          · have hki' : RayExt (pt 0) (pt k) (pt i) := hA.tie (hb1.trans hbk.le) hlt hi (by
              rw [ccw_swap, neg_nonpos]
              exact ((hA.tie hb1 hbi hi hz.symm.le).left _).2 (hA.le hbk.le (hlt.trans hi)))
            rw [ccw_swap, neg_nonneg]
            exact (hki'.onto _).2 (hA.le hak (hlt.trans hi))
          · rw [ccw_self_right]
        · exact ccw_pop_right (pt 0) 1 (pivotSide_one_pos hpos')
            (hA.pivotSide_nonneg (hab.trans hbi).le hi) (hA.pivotSide_nonneg hki hi) (ht k hbk.le hki) hc

theorem angSorted_new_edge {a t i k : Nat} (hat : a < t) (hti : t < i) (hi : i < n) (hkt : k < t)
    (hturn : 0 < ccw (pt a) (pt t) (pt i)) (hsup : 0 ≤ ccw (pt a) (pt t) (pt k)) :
    0 ≤ ccw (pt t) (pt i) (pt k) := by
  have htn : t < n := hti.trans hi
  rcases Nat.eq_zero_or_pos k with rfl | hk1
  · rw [← ccw_rot]
    exact hA.le hti.le hi
  rcases (hA.weak k t hk1 hkt htn).eq_or_lt with hz | hpos
  · rw [← ccw_rot]
    exact ((hA.tie hk1 hkt htn hz.symm.le).beyond _).2 (hA.le (by omega) hi)
  · -- `k` is strictly before `t` (`hpos`) and left of `a → t`; were `a` the pivot or on one ray with `t`,
    -- being left of `a → t` would put `k` at or after `t` in the angular order
    have hat' : 0 < ccw (pt 0) (pt a) (pt t) := by
      refine lt_of_not_ge fun hle => absurd hpos (not_lt.2 ?_)
      rw [ccw_swap, neg_nonpos]
      rcases Nat.eq_zero_or_pos a with rfl | ha1
      · exact hsup
      · have h := hA.tie ha1 hat htn hle
        exact (h.left _).2 ((h.beyond _).1 hsup)
    exact ccw_next_edge (pt 0) 1 (pivotSide_one_pos hat') (hA.pivotSide_nonneg hti.le hi)
      (pivotSide_one_pos hpos).le hsup hturn.le

theorem angSorted_back_edge {a b i p : Nat} (hab : a < b) (hbi : b < i) (hip : i < p) (hp : p < n)
    (hturn : 0 < ccw (pt a) (pt b) (pt i)) (h : 0 ≤ ccw (pt b) (pt i) (pt p)) :
    0 ≤ ccw (pt a) (pt b) (pt p) := by
  rcases Nat.eq_zero_or_pos a with rfl | ha
  · exact hA.le (hbi.trans hip).le hp
  · -- the strict turn rules out `i` on the ray through `b`
    have hbi' : 0 < ccw (pt 0) (pt b) (pt i) := lt_of_not_ge fun hle => absurd hturn (not_lt.2
      (((hA.tie (Nat.zero_lt_of_lt hab) hbi (hip.trans hp) hle).onto _).2
        (hA.le hab.le (hbi.trans (hip.trans hp)))))
    exact ccw_prev_edge (pt 0) 1 (hA.pivotSide_nonneg hab.le (hbi.trans (hip.trans hp)))
      (pivotSide_one_pos hbi') (hA.pivotSide_nonneg (hbi.trans hip).le hp) h hturn.le

theorem hullScan_sup_angSorted (j : Nat) (hj : j + 3 ≤ n) : ScanSup pt n (j + 2) (hullScan pt 2 [2, 1, 0] j) := by
  have h12 := hA.weak 1 2 (Nat.le_refl 1) (Nat.lt_succ_self 1) (Nat.le_trans (Nat.le_add_left 3 j) hj)
  have three : ∀ k, k ≤ 2 → k = 0 ∨ k = 1 ∨ k = 2 := by decide
  have h0 : ScanSup pt n 2 [2, 1, 0] := by
    refine ⟨idxInv_three, ⟨fun p hp hpn _ => hA.le (Nat.le_of_lt (Nat.lt_of_succ_lt hp)) hpn, trivial⟩,
      fun k hk => ?_, fun k hk => ?_, trivial⟩
    · obtain rfl | rfl | rfl := three k hk
      · rw [← ccw_rot]; exact h12
      · exact ccw_ends (Or.inl rfl)
      · exact ccw_ends (Or.inr rfl)
    · obtain rfl | rfl | rfl := three k hk
      · exact ccw_ends (Or.inl rfl)
      · exact ccw_ends (Or.inr rfl)
      · exact h12
  exact hullScan_sup (fun a b i hab hbi hi => angSorted_pop hA hab hbi hi)
    (fun a b i k hab hbi hi hkb => angSorted_new_edge hA hab hbi hi hkb)
    (fun a b i p hab hbi hip hp => angSorted_back_edge hA hab hbi hip hp) h0 j hj

/-- no linear functional has point `k` as its strict unique maximiser over the sequence -/
def NotExt (pt : Nat → P2) (n k : Nat) : Prop :=
  ∀ d : P2, ¬ ∀ j, j < n → j ≠ k → dot d (pt j) < dot d (pt k)

omit hA in
/-- barycentric form of a pop: the weights `-ccw a b i`, `ccw o b i`, `ccw o a b` on the pivot, `a` and `i`
balance at `b`; they are non-negative when `b` is popped, so `b` lies in the closed triangle -/
theorem dot_bary (d o a b i : P2) : (-ccw a b i) * (dot d o - dot d b) + ccw o b i * (dot d a - dot d b) +
    ccw o a b * (dot d i - dot d b) = 0 := by
  unfold ccw dot; ring

/-- a popped vertex lies in the closed triangle pivot, `a`, `i` (or on the segment pivot–`i`), so
no linear functional is strictly largest there -/
theorem pop_notExt {a b i : Nat} (hab : a < b) (hbi : b < i) (hi : i < n)
    (hc : ccw (pt a) (pt b) (pt i) ≤ 0) : NotExt pt n b := by
  intro d hd
  have hb1 : 1 ≤ b := Nat.zero_lt_of_lt hab
  have fo := hd 0 (Nat.zero_lt_of_lt hi) (Nat.ne_of_lt hb1)
  have fa := hd a (hab.trans (hbi.trans hi)) (Nat.ne_of_lt hab)
  have fi := hd i hi (Nat.ne_of_gt hbi)
  rcases (hA.weak b i hb1 hbi hi).eq_or_lt with hz | hpos
  · -- `i` on the ray through `b`: `b` lies strictly between the pivot and `i`
    obtain ⟨t, ht0, e1, e2⟩ := hA.ray b i hb1 hbi hi hz.symm
    have e : dot d (pt i) = dot d (pt b) + t * (dot d (pt b) - dot d (pt 0)) := by
      unfold dot; rw [e1, e2]; ring
    exact absurd fi (not_lt.2 (e ▸ le_add_of_nonneg_right (mul_pos ht0 (sub_pos.2 fo)).le))
  · have h1 := mul_nonpos_of_nonneg_of_nonpos (neg_nonneg.2 hc) (sub_nonpos.2 fo.le)
    have h2 := mul_neg_of_pos_of_neg hpos (sub_neg.2 fa)
    have h3 := mul_nonpos_of_nonneg_of_nonpos (hA.le hab.le (hbi.trans hi)) (sub_nonpos.2 fi.le)
    exact absurd (dot_bary d (pt 0) (pt a) (pt b) (pt i))
      (ne_of_lt (add_neg_of_neg_of_nonpos (add_neg_of_nonpos_of_neg h1 h2) h3))

def ScanKeep (pt : Nat → P2) (n m : Nat) (st : List Nat) : Prop :=
  ∀ k, k ≤ m → k ∈ st ∨ NotExt pt n k

theorem scanKeep_step (m : Nat) (hm : m + 1 < n) (st : List Nat) (hidx : IdxInv m st)
    (h : ScanKeep pt n m st) : ScanKeep pt n (m + 1) ((m + 1) :: popLower pt (m + 1) st) := by
  have hp := popLower_invariant pt (m + 1) (fun st => PopIdx (m + 1) st ∧ ScanKeep pt n m st) ?_ st
    ⟨hidx.popIdx, h⟩
  · intro k hk
    rcases Nat.lt_or_eq_of_le hk with hlt | rfl
    · exact (hp.2 k (Nat.le_of_lt_succ hlt)).imp_left (List.mem_cons_of_mem _)
    · exact Or.inl List.mem_cons_self
  · rintro b a rest hc ⟨hi, hk⟩
    refine ⟨hi.pop, fun k hkm => (hk k hkm).elim (fun hmem => ?_) Or.inr⟩
    rcases List.mem_cons.1 hmem with rfl | hmem
    · exact Or.inr (pop_notExt hA ((List.pairwise_cons.1 hi.desc).1 a List.mem_cons_self)
        (hi.lt k List.mem_cons_self) hm hc)
    · exact Or.inl hmem

end Deg

section DegPos
variable {pt : Nat → P2} {n : Nat} (hA : AngSorted pt n) (h3 : 3 ≤ n)
include hA h3

/-- every point of the sequence is on or left of every edge of the closed chain; the closing edge from the
last point back to the pivot is one more stack edge: the pivot pushed once more on top of the last point -/
theorem hullD_closed :
    Adj2 (fun u v => ∀ k, k < n → 0 ≤ ccw (pt u) (pt v) (pt k)) (hullD pt n ++ [0]) := by
  obtain ⟨m, rfl⟩ := Nat.exists_eq_add_of_le' h3
  have hs := hullScan_sup_angSorted hA m (Nat.le_refl _)
  obtain ⟨rest, hst⟩ := List.head?_eq_some_iff.1 hs.idx.head
  have hab := hs.sup
  rw [hst] at hab
  rw [hullD, Nat.add_sub_cancel, ← List.reverse_cons, hst]
  refine Adj2.reverse (R := fun v u => ∀ k, k < m + 3 → 0 ≤ ccw (pt u) (pt v) (pt k)) _
    ⟨fun k hk => ?_, Adj2.mono (fun _ _ h k hk => h k (Nat.le_of_lt_succ hk)) _ hab⟩
  rw [ccw_rot]
  exact hA.le (Nat.le_of_lt_succ hk) (Nat.lt_succ_self _)

theorem hullD_keep : ∀ k, k < n → k ∈ hullD pt n ∨ NotExt pt n k := by
  obtain ⟨m, rfl⟩ := Nat.exists_eq_add_of_le' h3
  have h := hullScan_inv pt (fun j st => IdxInv j st ∧ ScanKeep pt (m + 3) j st)
    ⟨idxInv_three, fun k hk => Or.inl ((by decide : ∀ k, k ≤ 2 → k ∈ [2, 1, 0]) k hk)⟩
    (fun j st hj h => ⟨idxInv_step pt j st h.1, scanKeep_step hA j hj st h.1 h.2⟩) m (Nat.lt_succ_self _)
  rw [hullD, Nat.add_sub_cancel]
  exact fun k hk => (h.2 k (Nat.le_of_lt_succ hk)).imp_left List.mem_reverse.2

end DegPos

end Knee
