import Knee.Model.Neighbourhood
import Knee.Lemmas.Pairs
import Knee.Lemmas.GetD
import Batteries.Data.List.Perm
import Mathlib.Data.List.Forall2
/-! Lemmas on `knee_ranking.slope_ranking` (`Knee/Model/Neighbourhood.lean`) for `Props/X01.lean`. -/
namespace Knee

theorem natMin_le (l : List Nat) : ∀ x ∈ l, natMin l ≤ x := by
  unfold natMin
  generalize l.headD 0 = d
  induction l with
  | nil => simp
  | cons y ys ih =>
    simp only [List.foldr_cons, List.forall_mem_cons]
    exact ⟨Nat.min_le_left _ _, fun x hx => Nat.le_trans (Nat.min_le_right _ _) (ih x hx)⟩

theorem natMax_le_iff (l : List Nat) (m : Nat) : natMax l ≤ m ↔ ∀ x ∈ l, x ≤ m := by
  unfold natMax
  induction l with
  | nil => simp
  | cons y ys ih => rw [List.foldr_cons, Nat.max_le, ih, List.forall_mem_cons]

/-- a permutation of `0..m-1` (`m ≥ 1`) has minimum 0 and maximum `m-1`: `(r - min)/ptp` is `r/(m-1)` -/
theorem normRanks_of_perm (r : List Nat) (m : Nat) (hp : r.Perm (List.range m)) (hm : 1 ≤ m) :
    normRanks r = r.map fun (k : Nat) => ((k : Int) : Rat) / (((m - 1 : Nat) : Int) : Rat) := by
  have hmem : ∀ x, x ∈ r ↔ x < m := fun x => hp.mem_iff.trans List.mem_range
  have h0 : natMin r = 0 := Nat.le_zero.1 (natMin_le r 0 ((hmem 0).2 hm))
  have h1 : natMax r = m - 1 :=
    Nat.le_antisymm ((natMax_le_iff r _).2 fun x hx => Nat.le_sub_one_of_lt ((hmem x).1 hx))
      ((natMax_le_iff r _).1 (Nat.le_refl _) _ ((hmem _).2 (Nat.sub_one_lt (Nat.ne_of_gt hm))))
  unfold normRanks
  rw [h0, h1]
  rfl

theorem isRankOf_perm (v : List Rat) (r : List Nat) (h : IsRankOf v r) : r.Perm (List.range v.length) := by
  obtain ⟨h1, h2, _⟩ := h
  refine (List.Subperm.perm_of_length_le ?_ (by simp [h1])).symm
  exact List.subperm_of_subset List.nodup_range (fun k hk => h2 k (List.mem_range.1 hk))

theorem countP_lt_range (n x : Nat) : (List.range n).countP (fun y => decide (y < x)) = min x n := by
  induction n with
  | zero => rw [List.range_zero, List.countP_nil, Nat.min_zero]
  | succ n ih =>
    rw [List.range_succ, List.countP_append, ih, List.countP_singleton]
    by_cases h : n < x
    · rw [decide_eq_true h, if_pos rfl, Nat.min_eq_right (Nat.le_of_lt h), Nat.min_eq_right h]
    · rw [decide_eq_false h, if_neg Bool.false_ne_true, Nat.add_zero, Nat.min_eq_left (Nat.le_of_not_lt h),
        Nat.min_eq_left (Nat.le_succ_of_le (Nat.le_of_not_lt h))]

/-- for `isRankOf_unique` (X01) -/
theorem perm_range_getD_eq_countP (r : List Nat) (n : Nat) (hp : r.Perm (List.range n)) (i : Nat) (hi : i < n) :
    r[i]?.getD 0 = (List.range n).countP (fun j => decide (r[j]?.getD 0 < r[i]?.getD 0)) := by
  have hlen : r.length = n := hp.length_eq.trans List.length_range
  have hlt : r[i]?.getD 0 < n := by
    rw [List.getElem?_eq_getElem (hlen ▸ hi), Option.getD_some]
    exact List.mem_range.1 (hp.mem_iff.1 (List.getElem_mem _))
  -- forget that `x` is an entry, keep `x < n`
  generalize r[i]?.getD 0 = x at hlt ⊢
  have e : (List.range n).countP (fun j => decide (r[j]?.getD 0 < x)) = r.countP (fun y => decide (y < x)) := by
    conv_rhs => rw [list_eq_map_range r 0, hlen, List.countP_map]
    rfl
  rw [e, hp.countP_eq, countP_lt_range, Nat.min_eq_left (Nat.le_of_lt hlt)]

theorem except_map_ok_iff {ε β γ : Type} (f : β → γ) (x : Except ε β) (y : γ) :
    Except.map f x = .ok y ↔ ∃ z, x = .ok z ∧ f z = y := by
  cases x <;> simp [Except.map]

section
variable {α : Type}

theorem nbIdxSeq_found (p i : Nat) (v : α) (tr : List Nat) (cs : List (NbOut α)) :
    nbIdxSeq p (.found i v tr :: cs) = (nbIdxSeq (p + 1) cs).map (i :: ·) := rfl

/-- the calls are made in order and the first exception wins -/
theorem nbIdxSeq_ok_iff (calls : List (NbOut α)) (p : Nat) (l : List Nat) :
    nbIdxSeq p calls = .ok l ↔ List.Forall₂ (fun c i => ∃ v tr, c = NbOut.found i v tr) calls l := by
  fun_induction nbIdxSeq p calls generalizing l with
  | case1 => exact ⟨fun h => by cases h; exact .nil, fun h => by cases h; rfl⟩
  | case2 p i v tr cs ih =>
    rw [except_map_ok_iff]
    constructor
    · rintro ⟨z, hz, rfl⟩
      exact .cons ⟨v, tr, rfl⟩ ((ih _).1 hz)
    · rintro (_ | ⟨⟨_, _, h⟩, h2⟩)
      cases h
      exact ⟨_, (ih _).2 h2, rfl⟩
  | case3 | case4 => exact ⟨fun h => (nomatch h), fun h => by cases h with | cons h _ => obtain ⟨_, _, h⟩ := h; cases h⟩

theorem nbIdxSeq_ok_length {calls : List (NbOut α)} {p : Nat} {l : List Nat} (h : nbIdxSeq p calls = .ok l) :
    l.length = calls.length :=
  ((nbIdxSeq_ok_iff calls p l).1 h).length_eq.symm

theorem nbIdxSeq_exists_iff (calls : List (NbOut α)) (p : Nat) :
    (∃ l, nbIdxSeq p calls = .ok l) ↔ ∀ c ∈ calls, ∃ k v tr, c = NbOut.found k v tr := by
  simp only [nbIdxSeq_ok_iff]
  induction calls with
  | nil => exact ⟨fun _ _ h => (nomatch h), fun _ => ⟨[], .nil⟩⟩
  | cons c cs ih =>
    rw [List.forall_mem_cons, ← ih]
    constructor
    · rintro ⟨_, _ | ⟨h1, h2⟩⟩
      exact ⟨⟨_, h1⟩, _, h2⟩
    · rintro ⟨⟨k, h1⟩, l, h2⟩
      exact ⟨k :: l, .cons h1 h2⟩

end

theorem nbArgs_length (knees : List Nat) : (nbArgs knees).length = knees.length := by
  simp [nbArgs, List.length_zip]

theorem nbArgs_fst (knees : List Nat) : (nbArgs knees).map Prod.fst = knees := by
  unfold nbArgs
  exact List.map_fst_zip (by simp)

theorem forall_nbArgs_fst (knees : List Nat) (P : Nat → Prop) :
    (∀ ab ∈ nbArgs knees, P ab.1) ↔ ∀ k ∈ knees, P k := by
  conv_rhs => rw [← nbArgs_fst knees]
  exact List.forall_mem_map.symm

theorem nbArgs_rel (R : Nat → Nat → Prop) (knees : List Nat) (h0 : ∀ k ∈ knees, R 0 k) (hp : knees.Pairwise R) :
    ∀ ab ∈ nbArgs knees, R ab.2 ab.1 :=
  tail_zip_rel (l := 0 :: knees) (List.pairwise_cons.2 ⟨h0, hp⟩)

theorem length_zipWith_nbArgs {β : Type} (f : Nat × Nat → Nat → β) {knees idx : List Nat} (h : idx.length = knees.length) :
    (List.zipWith f (nbArgs knees) idx).length = knees.length := by
  rw [List.length_zipWith, nbArgs_length, h, Nat.min_self]

section
variable {α : Type} [LT α] [DecidableLT α]

theorem slopeCalls_ok_length {r2 : Nat → Nat → α} {one t : α} {knees idx : List Nat}
    (h : nbIdxSeq 0 (slopeCalls r2 one t knees) = .ok idx) : idx.length = knees.length := by
  rw [nbIdxSeq_ok_length h, slopeCalls, List.length_map, nbArgs_length]

theorem slopeRanking_of_two_le (r2 : Nat → Nat → α) (one t : α) (aslope : Nat → Nat → Rat) (knees : List Nat)
    (hm : 2 ≤ knees.length) :
    slopeRanking r2 one t aslope knees =
      (nbIdxSeq 0 (slopeCalls r2 one t knees)).map fun idx =>
        if (rankOf (List.zipWith (fun ab k => aslope ab.1 k) (nbArgs knees) idx)).length > 1 then
          normRanks (rankOf (List.zipWith (fun ab k => aslope ab.1 k) (nbArgs knees) idx))
        else [1] := by
  match knees, hm with
  | _ :: _ :: _, _ => rfl

end

end Knee
