import Mathlib.Tactic.Ring
import Mathlib.Tactic.Linarith
import Knee.Model.Hull
import Knee.Lemmas.Adj
/-!
The chain scan `popLower` (C18), stacks with head = top, run from a given stack (`hullScan`): index and strict-turn
invariants, and the support invariant (every processed point left of every stack edge), proved once for any order of the
points with three properties (`section Support`; x-sorted curves and the angular order of `graham_scan` are instances) from
one identity about a homogeneous pivot (`pivotSide`).  The upper chain is the lower chain of the reflected curve.
-/
namespace Knee

theorem popLower_invariant (pt : Nat → P2) (i : Nat) (P : List Nat → Prop)
    (step : ∀ b a rest, ccw (pt a) (pt b) (pt i) ≤ 0 → P (b :: a :: rest) → P (a :: rest)) :
    ∀ st, P st → P (popLower pt i st)
  | [], h => by simpa [popLower] using h
  | [_], h => by simpa [popLower] using h
  | b :: a :: rest, h => by
    rw [popLower]
    split
    · exact popLower_invariant pt i P step (a :: rest) (step b a rest ‹_› h)
    · exact h

theorem popLower_top (pt : Nat → P2) (i : Nat) : ∀ st b a rest,
    popLower pt i st = b :: a :: rest → 0 < ccw (pt a) (pt b) (pt i)
  | [], b, a, rest, h => by simp [popLower] at h
  | [_], b, a, rest, h => by simp [popLower] at h
  | b' :: a' :: rest', b, a, rest, h => by
    rw [popLower] at h
    split at h
    · exact popLower_top pt i (a' :: rest') b a rest h
    · rename_i hc
      simp only [List.cons.injEq] at h
      obtain ⟨rfl, rfl, _⟩ := h
      exact lt_of_not_ge hc

theorem popLower_ne_nil (pt : Nat → P2) (i : Nat) (st : List Nat) (h : st ≠ []) :
    popLower pt i st ≠ [] :=
  popLower_invariant pt i (· ≠ []) (fun _ _ _ _ _ => by simp) st h

/-- The scan from a stack `st0` with top `m0`: the points `m0 + 1, …, m0 + j` are pushed in turn, each after
the pops.  `graham_scan_lower` starts from `[1, 0]`: `hullLower pt n` is by definition
`(hullScan pt 1 [1, 0] (n - 2)).reverse`; `graham_scan` starts from `[2, 1, 0]` (`hullD`). -/
def hullScan (pt : Nat → P2) (m0 : Nat) (st0 : List Nat) (j : Nat) : List Nat :=
  (List.range j).foldl (fun st k => (k + (m0 + 1)) :: popLower pt (k + (m0 + 1)) st) st0

theorem hullScan_succ (pt : Nat → P2) (m0 : Nat) (st0 : List Nat) (j : Nat) : hullScan pt m0 st0 (j + 1) =
    (j + (m0 + 1)) :: popLower pt (j + (m0 + 1)) (hullScan pt m0 st0 j) := by
  rw [hullScan, List.range_succ, List.foldl_append]; rfl

/-- `n` bounds the indices the step may assume to be pushed; a user without a bound takes `n := j + m0 + 1` -/
theorem hullScan_inv (pt : Nat → P2) (Q : Nat → List Nat → Prop) {n m0 : Nat} {st0 : List Nat} (h0 : Q m0 st0)
    (hs : ∀ m st, m + 1 < n → Q m st → Q (m + 1) ((m + 1) :: popLower pt (m + 1) st)) :
    ∀ j, j + m0 < n → Q (j + m0) (hullScan pt m0 st0 j)
  | 0, _ => by rwa [Nat.zero_add]
  | j + 1, hj => by
    rw [Nat.add_right_comm] at hj
    rw [hullScan_succ, Nat.add_right_comm]
    exact hs (j + m0) _ hj (hullScan_inv pt Q h0 hs j (Nat.lt_of_succ_lt hj))

structure IdxInv (m : Nat) (st : List Nat) : Prop where
  desc : st.Pairwise (· > ·)
  head : st.head? = some m
  last : st.getLast? = some 0
  two_le : 2 ≤ st.length

theorem IdxInv.le {m : Nat} {st : List Nat} (h : IdxInv m st) : ∀ x ∈ st, x ≤ m := by
  obtain ⟨rest, rfl⟩ := List.head?_eq_some_iff.1 h.head
  exact List.forall_mem_cons.2 ⟨Nat.le_refl _, fun _ hx => Nat.le_of_lt (List.rel_of_pairwise_cons h.desc hx)⟩

/-- the part of the index invariant preserved while popping for `i` -/
structure PopIdx (i : Nat) (st : List Nat) : Prop where
  desc : st.Pairwise (· > ·)
  last : st.getLast? = some 0
  ne_nil : st ≠ []
  lt : ∀ x ∈ st, x < i

theorem PopIdx.pop {i b a : Nat} {rest : List Nat} (h : PopIdx i (b :: a :: rest)) : PopIdx i (a :: rest) :=
  ⟨(List.pairwise_cons.1 h.desc).2, by rw [← List.getLast?_cons_cons]; exact h.last, by simp,
    fun x hx => h.lt x (List.mem_cons_of_mem _ hx)⟩

theorem IdxInv.popIdx {m : Nat} {st : List Nat} (h : IdxInv m st) : PopIdx (m + 1) st :=
  ⟨h.desc, h.last, fun e => absurd (e ▸ h.two_le) (by decide), fun x hx => Nat.lt_succ_of_le (h.le x hx)⟩

theorem PopIdx.push {i : Nat} {st : List Nat} (h : PopIdx i st) : IdxInv i (i :: st) := by
  obtain ⟨t, rest, rfl⟩ := List.exists_cons_of_ne_nil h.ne_nil
  exact ⟨List.pairwise_cons.2 ⟨h.lt, h.desc⟩, rfl, by rw [List.getLast?_cons_cons]; exact h.last,
    Nat.le_add_left 2 _⟩

theorem idxInv_init : IdxInv 1 [1, 0] := ⟨by decide, rfl, rfl, Nat.le_refl 2⟩

theorem idxInv_three : IdxInv 2 [2, 1, 0] := ⟨by decide, rfl, rfl, by decide⟩

theorem idxInv_step (pt : Nat → P2) (m : Nat) (st : List Nat) (h : IdxInv m st) :
    IdxInv (m + 1) ((m + 1) :: popLower pt (m + 1) st) :=
  (popLower_invariant pt (m + 1) (PopIdx (m + 1)) (fun _ _ _ _ h => h.pop) st h.popIdx).push

theorem hullScan_idx (pt : Nat → P2) {m0 : Nat} {st0 : List Nat} (h0 : IdxInv m0 st0) (j : Nat) :
    IdxInv (j + m0) (hullScan pt m0 st0 j) :=
  hullScan_inv pt IdxInv h0 (fun m st _ h => idxInv_step pt m st h) j (Nat.lt_succ_self _)

/-- a stack read bottom-up -/
structure IdxChain (m : Nat) (c : List Nat) : Prop where
  incr : c.Pairwise (· < ·)
  head : c.head? = some 0
  last : c.getLast? = some m
  le : ∀ k ∈ c, k ≤ m
  two_le : 2 ≤ c.length

theorem IdxInv.chain {m : Nat} {st : List Nat} (h : IdxInv m st) : IdxChain m st.reverse :=
  ⟨List.pairwise_reverse.2 h.desc, by rw [List.head?_reverse, h.last], by rw [List.getLast?_reverse, h.head],
    fun k hk => h.le k (List.mem_reverse.1 hk), by rw [List.length_reverse]; exact h.two_le⟩

/-- The chain of `graham_scan`, whose first three points are pushed unconditionally.  `D`: degenerate inputs
(collinear triples, several points on one ray) are allowed, as in the `grahamScanD_*` theorems of C18H. -/
def hullD (pt : Nat → P2) (n : Nat) : List Nat := (hullScan pt 2 [2, 1, 0] (n - 3)).reverse

theorem hullD_chain (pt : Nat → P2) {n : Nat} (h3 : 3 ≤ n) : IdxChain (n - 1) (hullD pt n) := by
  obtain ⟨m, rfl⟩ := Nat.exists_eq_add_of_le' h3
  rw [hullD, Nat.add_sub_cancel]
  exact (hullScan_idx pt idxInv_three m).chain

def ConvexL (pt : Nat → P2) (st : List Nat) : Prop :=
  Adj3 (fun c b a => 0 < ccw (pt a) (pt b) (pt c)) st

theorem convexL_step (pt : Nat → P2) (i : Nat) {st : List Nat} (h : ConvexL pt st) :
    ConvexL pt (i :: popLower pt i st) := by
  have hc : ConvexL pt (popLower pt i st) :=
    popLower_invariant pt i (ConvexL pt) (fun _ _ _ _ h => h.tail) st h
  match hst : popLower pt i st with
  | [] => trivial
  | [_] => trivial
  | b :: a :: rest => exact ⟨popLower_top pt i st b a rest hst, hst ▸ hc⟩

theorem hullScan_convex (pt : Nat → P2) {m0 : Nat} {st0 : List Nat} (h0 : ConvexL pt st0) (j : Nat) :
    ConvexL pt (hullScan pt m0 st0 j) :=
  hullScan_inv pt (fun _ => ConvexL pt) h0 (fun m _ _ h => convexL_step pt (m + 1) h) j (Nat.lt_succ_self _)

theorem ccw_self_left (a b : P2) : ccw a a b = 0 := by unfold ccw; ring
theorem ccw_self_mid (a b : P2) : ccw a b a = 0 := by unfold ccw; ring
theorem ccw_self_right (a b : P2) : ccw a b b = 0 := by unfold ccw; ring
/-- the two ends of an edge are on its line (a disjunction: at its uses an index is known to be one end or the other) -/
theorem ccw_ends {a b k : P2} (h : k = a ∨ k = b) : 0 ≤ ccw a b k := by
  rcases h with rfl | rfl
  · rw [ccw_self_mid]
  · rw [ccw_self_right]

theorem ccw_rot (a b c : P2) : ccw a b c = ccw b c a := by unfold ccw; ring
theorem ccw_swap (a b c : P2) : ccw a c b = -ccw a b c := by unfold ccw; ring

/-- the sign argument shared by the orientation lemmas: `x` is a positive combination over `w > 0` -/
theorem nonneg_of_mul_eq {x w p q r s : Rat} (h : x * w = p * q + r * s) (hw : 0 < w) (hp : 0 ≤ p)
    (hq : 0 ≤ q) (hr : 0 ≤ r) (hs : 0 ≤ s) : 0 ≤ x :=
  nonneg_of_mul_nonneg_left (h ▸ add_nonneg (mul_nonneg hp hq) (mul_nonneg hr hs)) hw

theorem ccw_collinear3 {o e x y z : P2} (hne : o ≠ e) (hx : ccw o e x = 0) (hy : ccw o e y = 0)
    (hz : ccw o e z = 0) : ccw x y z = 0 := by
  -- `ccw x y z` times either coordinate of `e - o` is a combination of the three hypotheses
  have k1 : (e.1 - o.1) * ccw x y z =
      (y.1 - x.1) * (ccw o e z - ccw o e x) - (z.1 - x.1) * (ccw o e y - ccw o e x) := by
    unfold ccw; ring
  have k2 : (e.2 - o.2) * ccw x y z =
      (y.2 - x.2) * (ccw o e z - ccw o e x) - (z.2 - x.2) * (ccw o e y - ccw o e x) := by
    unfold ccw; ring
  rw [hx, hy, hz, sub_zero, mul_zero, mul_zero, sub_zero] at k1 k2
  by_contra hc
  exact hne (Prod.ext (sub_eq_zero.1 ((mul_eq_zero.1 k1).resolve_right hc)).symm
    (sub_eq_zero.1 ((mul_eq_zero.1 k2).resolve_right hc)).symm)

theorem support_of_edge {a b : P2} (hab : b ≠ a) : ∃ d : P2, d ≠ (0, 0) ∧
    ∀ q : P2, ccw a b q ≤ 0 → dot d q ≤ dot d a := by
  refine ⟨(-(b.2 - a.2), b.1 - a.1), fun h => ?_, fun q hq => ?_⟩
  · exact hab (Prod.ext (sub_eq_zero.1 (congrArg Prod.snd h)) (sub_eq_zero.1 (neg_eq_zero.1 (congrArg Prod.fst h))))
  · unfold ccw at hq
    unfold dot
    simp only
    linarith

theorem ccw_collinear_break (u v t w : P2) (huv : u.1 < v.1) (hvw : v.1 < w.1)
    (hcol : ccw u v w = 0) (hturn : 0 < ccw u v t) : ccw v t w < 0 := by
  have key : ccw v t w * (v.1 - u.1) = ccw u v w * (t.1 - v.1) + ccw u v t * (v.1 - w.1) := by
    unfold ccw; ring
  rw [hcol, zero_mul, zero_add] at key
  exact neg_of_mul_neg_left (key ▸ mul_neg_of_pos_of_neg hturn (sub_neg.2 hvw)) (sub_nonneg.2 huv.le)

/-! ### support: every processed point is left of every stack edge

What the argument needs from the order of the points is three facts about a strict or failed turn
`a → b → i` (`a < b < i`), the hypotheses of `section Support`; they hold for x-sorted curves (below) and for
sequences weakly sorted by angle about `pt 0` (`Lemmas/GrahamDeg.lean`). -/

/-- every point `k ≤ m` is on or left of (the line through) every stack edge -/
def Supports (pt : Nat → P2) (m : Nat) (st : List Nat) : Prop :=
  Adj2 (fun b a => ∀ k, k ≤ m → 0 ≤ ccw (pt a) (pt b) (pt k)) st

/-- A later point left of a stack edge is left of the edge below it.  This is what a strict turn of the stack is
used for; it is carried instead of `ConvexL` because it also holds at the bottom of the stack `[2, 1, 0]` of
`graham_scan`, whose first three points are pushed unconditionally and may be collinear. -/
def ScanBack (pt : Nat → P2) (n : Nat) (st : List Nat) : Prop :=
  Adj3 (fun c b a => ∀ p, c < p → p < n → 0 ≤ ccw (pt b) (pt c) (pt p) → 0 ≤ ccw (pt a) (pt b) (pt p)) st

structure ScanSup (pt : Nat → P2) (n m : Nat) (st : List Nat) : Prop where
  idx : IdxInv m st
  back : ScanBack pt n st
  sup : Supports pt m st

theorem ScanBack.all {pt : Nat → P2} {n p : Nat} (hp : p < n) : ∀ (b a : Nat) (rest : List Nat),
    (b :: a :: rest).Pairwise (· > ·) → b < p → ScanBack pt n (b :: a :: rest) →
    0 ≤ ccw (pt a) (pt b) (pt p) → Adj2 (fun b a => 0 ≤ ccw (pt a) (pt b) (pt p)) (b :: a :: rest)
  | _, _, [], _, _, _, h => ⟨h, trivial⟩
  | b, a, a' :: rest, hpw, hb, hc, h =>
    ⟨h, ScanBack.all hp a a' rest (List.pairwise_cons.1 hpw).2
      (lt_trans ((List.pairwise_cons.1 hpw).1 a (by simp)) hb) hc.tail (hc.1 p hb hp h)⟩

section Support
/- `hpop`: when `b` is popped for `i`, "all points from the top on are left of the edge from the top to `i`" passes
from `b` to `a`.  `hnew`: a strict turn sends the earlier points from the left of `a → b` to the left of the new
edge `b → i`.  `hback`: … and the later points from the left of `b → i` to the left of `a → b`. -/
variable {pt : Nat → P2} {n : Nat}
  (hpop : ∀ a b i, a < b → b < i → i < n → ccw (pt a) (pt b) (pt i) ≤ 0 →
    (∀ k, k < i → 0 ≤ ccw (pt a) (pt b) (pt k)) → (∀ k, b ≤ k → k ≤ i → 0 ≤ ccw (pt b) (pt i) (pt k)) →
    ∀ k, a ≤ k → k ≤ i → 0 ≤ ccw (pt a) (pt i) (pt k))
  (hnew : ∀ a b i k, a < b → b < i → i < n → k < b → 0 < ccw (pt a) (pt b) (pt i) →
    0 ≤ ccw (pt a) (pt b) (pt k) → 0 ≤ ccw (pt b) (pt i) (pt k))
  (hback : ∀ a b i p, a < b → b < i → i < p → p < n → 0 < ccw (pt a) (pt b) (pt i) →
    0 ≤ ccw (pt b) (pt i) (pt p) → 0 ≤ ccw (pt a) (pt b) (pt p))

/-- carried through the pops before pushing `m + 1` -/
structure PopSup (pt : Nat → P2) (n m : Nat) (st : List Nat) : Prop where
  idx : PopIdx (m + 1) st
  back : ScanBack pt n st
  sup : Supports pt m st
  top : ∃ t rest, st = t :: rest ∧ ∀ k, t ≤ k → k ≤ m + 1 → 0 ≤ ccw (pt t) (pt (m + 1)) (pt k)

include hpop in
theorem PopSup.pop {m b a : Nat} {rest : List Nat} (hm : m + 1 < n)
    (hc : ccw (pt a) (pt b) (pt (m + 1)) ≤ 0) (h : PopSup pt n m (b :: a :: rest)) :
    PopSup pt n m (a :: rest) := by
  obtain ⟨hi, hb, hab, t, rest', hst, ht⟩ := h
  obtain ⟨rfl, rfl⟩ := List.cons.inj hst
  refine ⟨hi.pop, hb.tail, hab.tail, a, rest, rfl, ?_⟩
  exact hpop a b (m + 1) ((List.pairwise_cons.1 hi.desc).1 a (by simp)) (hi.lt b (by simp)) hm hc
    (fun k hk => hab.1 k (by omega)) ht

include hnew hback in
theorem PopSup.push {m : Nat} {r : List Nat} (hm : m + 1 < n) (h : PopSup pt n m r)
    (htop : ∀ b a rest, r = b :: a :: rest → 0 < ccw (pt a) (pt b) (pt (m + 1))) :
    ScanSup pt n (m + 1) ((m + 1) :: r) := by
  obtain ⟨hi, hb, hab, t, rest, rfl, ht⟩ := h
  rcases rest with _ | ⟨a, rest⟩
  · obtain rfl : t = 0 := Option.some.inj hi.last
    exact ⟨hi.push, trivial, fun k hk => ht k (Nat.zero_le _) hk, trivial⟩
  · have hturn := htop t a rest rfl
    have hat : a < t := (List.pairwise_cons.1 hi.desc).1 a List.mem_cons_self
    have htm : t < m + 1 := hi.lt t List.mem_cons_self
    refine ⟨hi.push, ⟨fun p hp hpn => hback a t (m + 1) p hat htm hp hpn hturn, hb⟩, fun k hk => ?_, ?_⟩
    · rcases Nat.lt_or_ge k t with hk' | hkt
      · exact hnew a t (m + 1) k hat htm hm hk' hturn (hab.1 k (Nat.le_of_lt_succ (hk'.trans htm)))
      · exact ht k hkt hk
    · -- the old edges: old points by `hab`, the new point by `ScanBack`
      refine Adj2.and ?_ _ hab (ScanBack.all hm t a rest hi.desc htm hb (le_of_lt hturn))
      intro b a hold hnew' k hk
      rcases Nat.lt_or_eq_of_le hk with h | rfl
      · exact hold k (Nat.le_of_lt_succ h)
      · exact hnew'

include hpop hnew hback in
theorem sup_step (m : Nat) (hm : m + 1 < n) (st : List Nat) (h : ScanSup pt n m st) :
    ScanSup pt n (m + 1) ((m + 1) :: popLower pt (m + 1) st) := by
  refine PopSup.push hnew hback hm ?_ (popLower_top pt (m + 1) st)
  refine popLower_invariant pt (m + 1) (PopSup pt n m) (fun b a rest hc h => h.pop hpop hm hc) st
    ⟨h.idx.popIdx, h.back, h.sup, ?_⟩
  obtain ⟨rest, rfl⟩ := List.head?_eq_some_iff.1 h.idx.head
  exact ⟨m, rest, rfl, fun k h1 h2 => ccw_ends ((Nat.lt_or_eq_of_le h2).imp
    (fun h => congrArg pt (Nat.le_antisymm (Nat.le_of_lt_succ h) h1)) (congrArg pt))⟩

include hpop hnew hback in
theorem hullScan_sup {m0 : Nat} {st0 : List Nat} (h0 : ScanSup pt n m0 st0) (j : Nat) (hj : j + m0 < n) :
    ScanSup pt n (j + m0) (hullScan pt m0 st0 j) :=
  hullScan_inv pt (ScanSup pt n) h0 (fun m st hm h => sup_step hpop hnew hback m hm st h) j hj

end Support

/-! ### the four orientation lemmas behind the three order facts

Each is the three-term Grassmann–Plücker relation about a hub `h`,
`ccw h y z * pivotSide o w h x = ccw h x z * pivotSide o w h y - ccw h x y * pivotSide o w h z`
(hub `a` in `ccw_pop_left`, `i` in `ccw_pop_right`, `b` in the other two), with its terms sorted by sign.  The
weights are taken about any pivot `o`, finite or at infinity: the x-sorted scan uses the pivot at vertical infinity
(weights = x-differences), `graham_scan` its finite pivot (`Lemmas/GrahamDeg.lean`). -/

/-- `ccw` about a pivot in homogeneous coordinates `(o.1, o.2, w)` -/
def pivotSide (o : P2) (w : Rat) (a b : P2) : Rat :=
  o.1 * (a.2 - b.2) - o.2 * (a.1 - b.1) + w * (a.1 * b.2 - a.2 * b.1)

theorem pivotSide_one (o a b : P2) : pivotSide o 1 a b = ccw o a b := by unfold pivotSide ccw; ring

theorem pivotSide_one_pos {o a b : P2} (h : 0 < ccw o a b) : 0 < pivotSide o 1 a b :=
  (pivotSide_one o a b).symm ▸ h

theorem pivotSide_up (a b : P2) : pivotSide (0, 1) 0 a b = b.1 - a.1 := by unfold pivotSide; ring

/-- pop justification, points between `a` and the popped vertex `b` -/
theorem ccw_pop_left (o : P2) (w : Rat) {a b i k : P2} (hab : 0 < pivotSide o w a b) (hai : 0 ≤ pivotSide o w a i)
    (hak : 0 ≤ pivotSide o w a k) (h1 : 0 ≤ ccw a b k) (h2 : ccw a b i ≤ 0) : 0 ≤ ccw a i k :=
  nonneg_of_mul_eq (w := pivotSide o w a b) (p := ccw a b k) (q := pivotSide o w a i) (r := -ccw a b i)
    (s := pivotSide o w a k) (by unfold ccw pivotSide; ring) hab h1 hai (neg_nonneg.2 h2) hak

/-- pop justification, points between the popped vertex `b` and the new point `i` -/
theorem ccw_pop_right (o : P2) (w : Rat) {a b i k : P2} (hbi : 0 < pivotSide o w b i) (hai : 0 ≤ pivotSide o w a i)
    (hki : 0 ≤ pivotSide o w k i) (h1 : 0 ≤ ccw b i k) (h2 : ccw a b i ≤ 0) : 0 ≤ ccw a i k :=
  nonneg_of_mul_eq (w := pivotSide o w b i) (p := ccw b i k) (q := pivotSide o w a i) (r := -ccw a b i)
    (s := pivotSide o w k i) (by unfold ccw pivotSide; ring) hbi h1 hai (neg_nonneg.2 h2) hki

/-- a point left of edge `a b` and before `b` is left of the next edge `b c` -/
theorem ccw_next_edge (o : P2) (w : Rat) {a b c p : P2} (hab : 0 < pivotSide o w a b) (hbc : 0 ≤ pivotSide o w b c)
    (hp : 0 ≤ pivotSide o w p b) (h1 : 0 ≤ ccw a b p) (h2 : 0 ≤ ccw a b c) : 0 ≤ ccw b c p :=
  nonneg_of_mul_eq (w := pivotSide o w a b) (p := ccw a b p) (q := pivotSide o w b c) (r := ccw a b c)
    (s := pivotSide o w p b) (by unfold ccw pivotSide; ring) hab h1 hbc h2 hp

/-- a point left of edge `b c` and after `b` is left of the previous edge `a b` -/
theorem ccw_prev_edge (o : P2) (w : Rat) {a b c p : P2} (hab : 0 ≤ pivotSide o w a b) (hbc : 0 < pivotSide o w b c)
    (hp : 0 ≤ pivotSide o w b p) (h1 : 0 ≤ ccw b c p) (h2 : 0 ≤ ccw a b c) : 0 ≤ ccw a b p :=
  nonneg_of_mul_eq (w := pivotSide o w b c) (p := ccw b c p) (q := pivotSide o w a b) (r := ccw a b c)
    (s := pivotSide o w b p) (by unfold ccw pivotSide; ring) hbc h1 hab h2 hp

section XSorted
variable {pt : Nat → P2} {n : Nat} (hx : ∀ i j, i < j → j < n → (pt i).1 < (pt j).1)
include hx

theorem pivotSide_up_pos {i j : Nat} (hij : i < j) (hj : j < n) : 0 < pivotSide (0, 1) 0 (pt i) (pt j) := by
  rw [pivotSide_up]
  exact sub_pos.2 (hx i j hij hj)

theorem pivotSide_up_nonneg {i j : Nat} (hij : i ≤ j) (hj : j < n) : 0 ≤ pivotSide (0, 1) 0 (pt i) (pt j) := by
  rcases Nat.lt_or_eq_of_le hij with h | rfl
  · exact (pivotSide_up_pos hx h hj).le
  · rw [pivotSide_up, sub_self]

theorem hullScan_sup_xsorted (j : Nat) (hj : j + 2 ≤ n) : ScanSup pt n (j + 1) (hullScan pt 1 [1, 0] j) := by
  have h0 : ScanSup pt n 1 [1, 0] := ⟨idxInv_init, trivial, fun k hk =>
    ccw_ends ((Nat.le_one_iff_eq_zero_or_eq_one.1 hk).imp (congrArg pt) (congrArg pt)), trivial⟩
  refine hullScan_sup ?_ ?_ ?_ h0 j hj
  · intro a b i hab hbi hi hc hsup ht k hak hki
    have hai := pivotSide_up_nonneg hx (hab.trans hbi).le hi
    by_cases hkb : k ≤ b
    · exact ccw_pop_left _ _ (pivotSide_up_pos hx hab (hbi.trans hi)) hai
        (pivotSide_up_nonneg hx hak (hki.trans_lt hi)) (hsup k (hkb.trans_lt hbi)) hc
    · exact ccw_pop_right _ _ (pivotSide_up_pos hx hbi hi) hai (pivotSide_up_nonneg hx hki hi)
        (ht k (Nat.le_of_not_le hkb) hki) hc
  · intro a b i k hab hbi hi hkb hturn hk
    exact ccw_next_edge _ _ (pivotSide_up_pos hx hab (hbi.trans hi)) (pivotSide_up_nonneg hx hbi.le hi)
      (pivotSide_up_nonneg hx hkb.le (hbi.trans hi)) hk hturn.le
  · intro a b i p hab hbi hip hp hturn h
    exact ccw_prev_edge _ _ (pivotSide_up_nonneg hx hab.le (hbi.trans (hip.trans hp)))
      (pivotSide_up_pos hx hbi (hip.trans hp)) (pivotSide_up_nonneg hx (hbi.trans hip).le hp) h hturn.le

end XSorted

def reflY (pt : Nat → P2) : Nat → P2 := fun k => ((pt k).1, -(pt k).2)

def flipY (p : P2) : P2 := (p.1, -p.2)

theorem ccw_flipY (a b c : P2) : ccw (flipY a) (flipY b) (flipY c) = -ccw a b c := by
  unfold ccw flipY; ring

theorem dot_flipY (d p : P2) : dot (flipY d) (flipY p) = dot d p := by
  unfold dot flipY; ring

theorem ccw_reflY (pt : Nat → P2) (a b c : Nat) :
    ccw (reflY pt a) (reflY pt b) (reflY pt c) = -ccw (pt a) (pt b) (pt c) :=
  ccw_flipY _ _ _

theorem ccw_upper_eq (pt : Nat → P2) (a b i : Nat) :
    ccw (pt i) (pt b) (pt a) = ccw (reflY pt a) (reflY pt b) (reflY pt i) := by
  rw [ccw_reflY, ccw_rot (pt i), ccw_swap, ← ccw_rot]

theorem popUpper_eq_popLower (pt : Nat → P2) (i : Nat) : ∀ st, popUpper pt i st = popLower (reflY pt) i st
  | [] => by simp [popUpper, popLower]
  | [_] => by simp [popUpper, popLower]
  | b :: a :: rest => by
    rw [popUpper, popLower, ccw_upper_eq, popUpper_eq_popLower pt i (a :: rest)]

theorem hullUpper_eq_hullLower (pt : Nat → P2) (n : Nat) : hullUpper pt n = hullLower (reflY pt) n := by
  simp only [hullUpper, hullLower, popUpper_eq_popLower]

theorem popLower_congr (pt pt' : Nat → P2)
    (h : ∀ a b c, ccw (pt' a) (pt' b) (pt' c) ≤ 0 ↔ ccw (pt a) (pt b) (pt c) ≤ 0) (i : Nat) :
    ∀ st, popLower pt' i st = popLower pt i st
  | [] => by simp [popLower]
  | [_] => by simp [popLower]
  | b :: a :: rest => by
    simp only [popLower, h, popLower_congr pt pt' h i (a :: rest)]

theorem popUpper_congr (pt pt' : Nat → P2)
    (h : ∀ a b c, ccw (pt' a) (pt' b) (pt' c) ≤ 0 ↔ ccw (pt a) (pt b) (pt c) ≤ 0) (i : Nat)
    (st : List Nat) : popUpper pt' i st = popUpper pt i st := by
  rw [popUpper_eq_popLower, popUpper_eq_popLower]
  exact popLower_congr _ _ (fun a b c => by rw [← ccw_upper_eq, ← ccw_upper_eq]; exact h c b a) i st

theorem hullLower_congr (pt pt' : Nat → P2)
    (h : ∀ a b c, ccw (pt' a) (pt' b) (pt' c) ≤ 0 ↔ ccw (pt a) (pt b) (pt c) ≤ 0) (n : Nat) :
    hullLower pt' n = hullLower pt n := by
  simp only [hullLower, popLower_congr pt pt' h]

theorem hullUpper_congr (pt pt' : Nat → P2)
    (h : ∀ a b c, ccw (pt' a) (pt' b) (pt' c) ≤ 0 ↔ ccw (pt a) (pt b) (pt c) ≤ 0) (n : Nat) :
    hullUpper pt' n = hullUpper pt n := by
  simp only [hullUpper, popUpper_congr pt pt' h]

end Knee
