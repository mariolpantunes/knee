import Knee.Lemmas.Hull
import Knee.Lemmas.InsertSort
/-!
The angular order of `graham_scan`: sequences weakly sorted by angle whose ties are points on one ray (`AngSorted`,
`RayExt`), and the comparator `_compare_points`, which sorts the pivot's half-plane that way; the pivot `lexMin` has
every other point in that half-plane (`LexLe.rightOf`, `lexMin_spec`).  `GenPos` is the hypothesis of C18G.

The model sorts by insertion where the package calls `sorted` with `cmp_to_key`.  Proved here: on the pivot's
half-plane the comparator is total and transitive, and two distinct points it ties in angle lie on one ray, the
nearer first (`angBefore_total`, `angBefore_trans`, `rayExt_of_tie`).  That every correct sort returns the same list
needs, besides, that it orders two distinct points one way only; that is not proved here: the model's order is
compared with the package's on every input of the correspondence run.
-/
namespace Knee

/-- `y` lies on the ray from `o` through `x`, strictly beyond `x` (of two tied points the comparator puts the nearer
first), so that `x → y` has a direction (`RayExt.beyond`).  Collinearity gives the same ray as `y - o = s (x - o)`,
`0 < s` (`ray_of_collinear`), the scan reads it as three `ccw` identities (`RayExt.spec`); `rayExt_of_tie` leads from
the first form to this one. -/
def RayExt (o x y : P2) : Prop :=
  ∃ t : Rat, 0 < t ∧ y.1 = x.1 + t * (x.1 - o.1) ∧ y.2 = x.2 + t * (x.2 - o.2)

theorem RayExt.spec {o x y : P2} (h : RayExt o x y) : ∃ t : Rat, 0 < t ∧
    (∀ k, ccw o y k = (1 + t) * ccw o x k) ∧ (∀ a, ccw a x y = -t * ccw o a x) ∧
    (∀ k, ccw x y k = t * ccw o x k) := by
  obtain ⟨t, ht, e1, e2⟩ := h
  refine ⟨t, ht, ?_, ?_, ?_⟩ <;> intro k <;> unfold ccw <;> rw [e1, e2] <;> ring

theorem RayExt.left {o x y : P2} (h : RayExt o x y) (k : P2) : 0 ≤ ccw o y k ↔ 0 ≤ ccw o x k := by
  obtain ⟨t, ht, s, _, _⟩ := h.spec
  rw [s]
  exact mul_nonneg_iff_of_pos_left (by linarith)

theorem RayExt.beyond {o x y : P2} (h : RayExt o x y) (k : P2) : 0 ≤ ccw x y k ↔ 0 ≤ ccw o x k := by
  obtain ⟨t, ht, _, _, s⟩ := h.spec
  rw [s]
  exact mul_nonneg_iff_of_pos_left ht

theorem RayExt.beyond_nonpos {o x y : P2} (h : RayExt o x y) (k : P2) :
    ccw x y k ≤ 0 ↔ ccw o x k ≤ 0 := by
  obtain ⟨t, ht, _, _, s⟩ := h.spec
  rw [s, ← not_lt, ← not_lt, mul_pos_iff_of_pos_left ht]

theorem RayExt.onto {o x y : P2} (h : RayExt o x y) (a : P2) : ccw a x y ≤ 0 ↔ 0 ≤ ccw o a x := by
  obtain ⟨t, ht, _, s, _⟩ := h.spec
  rw [s, neg_mul, neg_nonpos]
  exact mul_nonneg_iff_of_pos_left ht

theorem RayExt.flipY {o x y : P2} (h : RayExt o x y) : RayExt (flipY o) (flipY x) (flipY y) := by
  obtain ⟨t, ht, e1, e2⟩ := h
  exact ⟨t, ht, e1, by unfold Knee.flipY; simp only; rw [e2]; ring⟩

/-- `pt 1, …, pt (n - 1)` are weakly sorted by angle about the pivot `pt 0`; a tie means that the later point
lies on the ray from the pivot through the earlier one, strictly beyond it -/
structure AngSorted (pt : Nat → P2) (n : Nat) : Prop where
  weak : ∀ i j, 1 ≤ i → i < j → j < n → 0 ≤ ccw (pt 0) (pt i) (pt j)
  ray : ∀ i j, 1 ≤ i → i < j → j < n → ccw (pt 0) (pt i) (pt j) = 0 → RayExt (pt 0) (pt i) (pt j)

section
variable {pt : Nat → P2} {n : Nat} (hA : AngSorted pt n)
include hA

theorem AngSorted.le {i j : Nat} (hij : i ≤ j) (hj : j < n) : 0 ≤ ccw (pt 0) (pt i) (pt j) := by
  rcases Nat.eq_zero_or_pos i with rfl | hi
  · rw [ccw_self_left]
  · rcases Nat.lt_or_eq_of_le hij with h | rfl
    · exact hA.weak i j hi h hj
    · rw [ccw_self_right]

/-- the weak order as weights about the pivot, for the orientation lemmas -/
theorem AngSorted.pivotSide_nonneg {i j : Nat} (hij : i ≤ j) (hj : j < n) : 0 ≤ pivotSide (pt 0) 1 (pt i) (pt j) :=
  (pivotSide_one _ _ _).symm ▸ hA.le hij hj

theorem AngSorted.tie {i j : Nat} (hi : 1 ≤ i) (hij : i < j) (hj : j < n)
    (h : ccw (pt 0) (pt i) (pt j) ≤ 0) : RayExt (pt 0) (pt i) (pt j) :=
  hA.ray i j hi hij hj (le_antisymm h (hA.weak i j hi hij hj))

end

def LexLe (a b : P2) : Prop := a.1 < b.1 ∨ (a.1 = b.1 ∧ a.2 ≤ b.2)

/-- `q` lies in the open right half-plane of `p0` or on the open vertical ray above `p0` -/
def RightOf (p0 q : P2) : Prop := p0.1 < q.1 ∨ (p0.1 = q.1 ∧ p0.2 < q.2)

theorem LexLe.refl (a : P2) : LexLe a a := Or.inr ⟨rfl, le_refl _⟩

theorem LexLe.trans {a b c : P2} (h1 : LexLe a b) (h2 : LexLe b c) : LexLe a c := by
  unfold LexLe at *
  rcases h1 with h1 | ⟨h1, h1'⟩ <;> rcases h2 with h2 | ⟨h2, h2'⟩
  · exact Or.inl (lt_trans h1 h2)
  · exact Or.inl (by rw [← h2]; exact h1)
  · exact Or.inl (by rw [h1]; exact h2)
  · exact Or.inr ⟨h1.trans h2, le_trans h1' h2'⟩

theorem LexLe.of_not {a b : P2} (h : ¬ LexLe a b) : LexLe b a := by
  unfold LexLe at *
  rcases lt_trichotomy a.1 b.1 with h1 | h1 | h1
  · exact absurd (Or.inl h1) h
  · exact Or.inr ⟨h1.symm, le_of_not_ge fun h2 => h (Or.inr ⟨h1, h2⟩)⟩
  · exact Or.inl h1

theorem LexLe.rightOf {a b : P2} (h : LexLe a b) (hne : a ≠ b) : RightOf a b :=
  h.imp_right fun ⟨h1, h2⟩ => ⟨h1, lt_of_le_of_ne h2 fun h3 => hne (Prod.ext h1 h3)⟩

theorem RightOf.sub {o q : P2} (h : RightOf o q) : 0 < q.1 - o.1 ∨ (q.1 - o.1 = 0 ∧ 0 < q.2 - o.2) :=
  h.imp sub_pos.2 fun ⟨h1, h2⟩ => ⟨sub_eq_zero.2 h1.symm, sub_pos.2 h2⟩

/-- `ang_trans` with the pivot moved to the origin, on raw coordinates: the shape `RightOf.sub` gives after `unfold ccw` -/
theorem cross_trans (ax ay bx by' cx cy : Rat) (ha : 0 < ax ∨ (ax = 0 ∧ 0 < ay))
    (hb : 0 < bx ∨ (bx = 0 ∧ 0 < by')) (hc : 0 < cx ∨ (cx = 0 ∧ 0 < cy))
    (h1 : ax * by' - bx * ay < 0) (h2 : bx * cy - cx * by' < 0) : ax * cy - cx * ay < 0 := by
  have hax : 0 ≤ ax := ha.elim le_of_lt fun h => h.1.ge
  have hcx : 0 ≤ cx := hc.elim le_of_lt fun h => h.1.ge
  -- `b` is not on the vertical, else `a × b = ax * by' ≥ 0`
  have hbx : 0 < bx := hb.elim id fun ⟨h, hy⟩ =>
    absurd h1 (not_lt.2 (by rw [h, zero_mul, sub_zero]; exact mul_nonneg hax hy.le))
  have key : (ax * cy - cx * ay) * bx = (ax * by' - bx * ay) * cx + (bx * cy - cx * by') * ax := by ring
  refine neg_of_mul_neg_left (key ▸ ?_) hbx.le
  rcases ha with ha | ⟨rfl, hay⟩
  · exact add_neg_of_nonpos_of_neg (mul_nonpos_of_nonpos_of_nonneg h1.le hcx) (mul_neg_of_neg_of_pos h2 ha)
  · -- `a` on the vertical: then `c` is not, else `b × c = bx * cy > 0`
    have hcx' : 0 < cx := hc.elim id fun ⟨h, hy⟩ =>
      absurd h2 (not_lt.2 (by rw [h, zero_mul, sub_zero]; exact (mul_pos hbx hy).le))
    rw [mul_zero, add_zero]
    exact mul_neg_of_neg_of_pos h1 hcx'

theorem ang_trans (p0 a b c : P2) (ha : RightOf p0 a) (hb : RightOf p0 b) (hc : RightOf p0 c)
    (h1 : ccw p0 a b < 0) (h2 : ccw p0 b c < 0) : ccw p0 a c < 0 := by
  unfold ccw at *
  exact cross_trans _ _ _ _ _ _ ha.sub hb.sub hc.sub h1 h2

/-- `ray_of_collinear` with the pivot moved to the origin, on raw coordinates as `cross_trans` -/
theorem parallel_pos (a b c d : Rat) (hu : 0 < a ∨ (a = 0 ∧ 0 < b)) (hv : 0 < c ∨ (c = 0 ∧ 0 < d))
    (h : a * d - c * b = 0) : ∃ s : Rat, 0 < s ∧ c = s * a ∧ d = s * b := by
  rcases hu with ha | ⟨rfl, hb⟩
  · have hc : 0 < c := by
      rcases hv with hc | ⟨rfl, hd⟩
      · exact hc
      · exact absurd ((sub_eq_zero.1 h).trans (zero_mul b)) (mul_pos ha hd).ne'
    refine ⟨c / a, div_pos hc ha, (div_mul_cancel₀ c ha.ne').symm, ?_⟩
    rw [div_mul_eq_mul_div, eq_div_iff ha.ne', mul_comm]
    exact sub_eq_zero.1 h
  · rw [zero_mul, zero_sub, neg_eq_zero] at h
    obtain rfl : c = 0 := (mul_eq_zero.1 h).resolve_right hb.ne'
    have hd : 0 < d := hv.elim (fun h => absurd h (lt_irrefl _)) And.right
    exact ⟨d / b, div_pos hd hb, (mul_zero _).symm, (div_mul_cancel₀ d hb.ne').symm⟩

theorem ray_of_collinear {o x y : P2} (hx : RightOf o x) (hy : RightOf o y) (h : ccw o x y = 0) :
    ∃ s : Rat, 0 < s ∧ y.1 - o.1 = s * (x.1 - o.1) ∧ y.2 - o.2 = s * (x.2 - o.2) :=
  parallel_pos _ _ _ _ hx.sub hy.sub h

theorem angBefore_iff (p0 a b : P2) : angBefore p0 a b = true ↔
    ccw p0 a b < 0 ∨ (ccw p0 a b = 0 ∧ normSq (sub a p0) ≤ normSq (sub b p0)) := by
  unfold angBefore
  by_cases h : ccw p0 a b = 0 <;> simp [h]

theorem angBefore_total (p0 a b : P2) (h : ¬ angBefore p0 b a = true) : angBefore p0 a b = true := by
  rw [angBefore_iff] at h ⊢
  rw [ccw_swap p0 b a]
  by_cases h0 : ccw p0 b a = 0
  · right
    rw [h0]
    exact ⟨neg_zero, le_of_not_ge fun hc => h (Or.inr ⟨h0, hc⟩)⟩
  · left
    rcases lt_or_gt_of_ne h0 with h1 | h1
    · exact absurd (Or.inl h1) h
    · exact neg_neg_of_pos h1

theorem normSq_ray {o x y : P2} {s : Rat} (e1 : y.1 - o.1 = s * (x.1 - o.1))
    (e2 : y.2 - o.2 = s * (x.2 - o.2)) : normSq (sub y o) = s * s * normSq (sub x o) := by
  unfold normSq dot sub
  simp only
  rw [e1, e2]; ring

theorem angBefore_trans (p0 a b c : P2) (ha : RightOf p0 a) (hb : RightOf p0 b) (hc : RightOf p0 c)
    (h1 : angBefore p0 a b = true) (h2 : angBefore p0 b c = true) : angBefore p0 a c = true := by
  rw [angBefore_iff] at h1 h2 ⊢
  rcases h1 with h1 | ⟨h1, n1⟩ <;> rcases h2 with h2 | ⟨h2, n2⟩
  · exact Or.inl (ang_trans p0 a b c ha hb hc h1 h2)
  · obtain ⟨s, hs, e1, e2⟩ := ray_of_collinear hb hc h2
    have : ccw p0 a c = s * ccw p0 a b := by unfold ccw; rw [e1, e2]; ring
    exact Or.inl (this ▸ mul_neg_of_pos_of_neg hs h1)
  · obtain ⟨s, hs, e1, e2⟩ := ray_of_collinear ha hb h1
    have : ccw p0 b c = s * ccw p0 a c := by unfold ccw; rw [e1, e2]; ring
    exact Or.inl (neg_of_mul_neg_right (this ▸ h2) hs.le)
  · obtain ⟨s, hs, e1, e2⟩ := ray_of_collinear ha hb h1
    obtain ⟨s', hs', e1', e2'⟩ := ray_of_collinear hb hc h2
    right
    refine ⟨?_, le_trans n1 n2⟩
    unfold ccw; rw [e1', e2', e1, e2]; ring

/-- `insertBy p` stops in front of the first `y` with `p x y`; `insertAng` walks past `y` while `y` sorts before
`x`: the test is the negated, flipped comparator. -/
theorem insertAng_eq (p0 : P2) : insertAng p0 = insertBy (fun a b => ¬ angBefore p0 b.1 a.1) :=
  eq_insertBy (fun _ => rfl) fun _ _ _ => by rw [insertAng, ite_not]

theorem sortAng_eq (p0 : P2) (l : List (P2 × Nat)) :
    sortAng p0 l = sortByL (fun a b => ¬ angBefore p0 b.1 a.1) l := by
  simp only [sortAng, sortByL, insertAng_eq]

theorem sortAng_perm (p0 : P2) (l : List (P2 × Nat)) : (sortAng p0 l).Perm l := by
  rw [sortAng_eq]; exact sortByL_perm l

/-- On the half-plane of the pivot the angular sort returns a list sorted
by the comparator (clockwise first, collinear with the pivot: nearer first). -/
theorem sortAng_pairwise (p0 : P2) (l : List (P2 × Nat)) (hr : ∀ q ∈ l, RightOf p0 q.1) :
    (sortAng p0 l).Pairwise fun a b => angBefore p0 a.1 b.1 = true := by
  rw [sortAng_eq]
  -- the binder type of `S` is written out: without it `q.1` waits for it and `hr` is compared with an unfinished `S`
  exact sortByL_pairwise_of_mem (S := fun q : P2 × Nat => RightOf p0 q.1) l hr
    (fun x y _ _ h => angBefore_total p0 x.1 y.1 h) (fun x y _ _ h => not_not.1 h)
    fun x y z hx hy hz => angBefore_trans p0 x.1 y.1 z.1 hx hy hz

theorem rayExt_of_tie {o x y : P2} (hx : RightOf o x) (hy : RightOf o y) (hne : x ≠ y)
    (hb : angBefore o x y = true) (h : ccw o x y = 0) : RayExt o x y := by
  obtain ⟨s, hs, e1, e2⟩ := ray_of_collinear hx hy h
  have hn : normSq (sub x o) ≤ normSq (sub y o) :=
    ((angBefore_iff o x y).1 hb).elim (fun hb => absurd (h ▸ hb) (lt_irrefl _)) And.right
  rw [normSq_ray e1 e2] at hn
  have hN : 0 < normSq (sub x o) := by
    unfold normSq dot sub
    rcases hx.sub with ha | ⟨_, hb⟩
    · exact add_pos_of_pos_of_nonneg (mul_pos ha ha) (mul_self_nonneg _)
    · exact add_pos_of_nonneg_of_pos (mul_self_nonneg _) (mul_pos hb hb)
  -- the second point is not nearer, so `s ≥ 1`; it is another point, so `s ≠ 1`
  have hs1 : 1 ≤ s := by
    by_contra hcon
    have := mul_lt_mul_of_pos_right (mul_self_lt_mul_self (le_of_lt hs) (not_le.1 hcon)) hN
    rw [mul_one, one_mul] at this
    exact absurd hn (not_le.2 this)
  have hs1' : s ≠ 1 := by
    rintro rfl
    rw [one_mul] at e1 e2
    exact hne (Prod.ext (sub_left_inj.1 e1).symm (sub_left_inj.1 e2).symm)
  exact ⟨s - 1, sub_pos.2 (lt_of_le_of_ne hs1 hs1'.symm), (sub_eq_iff_eq_add.1 e1).trans (by ring),
    (sub_eq_iff_eq_add.1 e2).trans (by ring)⟩

theorem lexMin_eq_none : ∀ l : List (P2 × Nat), lexMin l = none → l = []
  | [], _ => rfl
  | x :: t, h => by
    rw [lexMin] at h
    split at h
    · simp at h
    · split at h <;> simp at h

theorem lexMin_spec : ∀ {l : List (P2 × Nat)} {a : P2 × Nat}, lexMin l = some a →
    a ∈ l ∧ ∀ q ∈ l, LexLe a.1 q.1
  | [], a, h => by simp [lexMin] at h
  | x :: t, a, h => by
    rw [lexMin] at h
    split at h
    · rename_i hn
      obtain rfl := lexMin_eq_none t hn
      obtain rfl := Option.some.inj h
      exact ⟨by simp, fun q hq => by rw [List.mem_singleton.1 hq]; exact LexLe.refl _⟩
    · rename_i b hb
      obtain ⟨hm, hle⟩ := lexMin_spec hb
      split at h <;> rename_i hc <;> obtain rfl := Option.some.inj h
      · exact ⟨by simp, fun q hq => (List.mem_cons.1 hq).elim (fun e => e ▸ LexLe.refl _)
          fun hq => LexLe.trans hc (hle q hq)⟩
      · exact ⟨List.mem_cons_of_mem _ hm, fun q hq => (List.mem_cons.1 hq).elim
          (fun e => e ▸ LexLe.of_not hc) (hle q)⟩

/-- general position: no three distinct input points are collinear -/
def GenPos (pts : List P2) : Prop :=
  ∀ i j k, i < pts.length → j < pts.length → k < pts.length → i ≠ j → i ≠ k → j ≠ k →
    ccw (pts[i]?.getD (0, 0)) (pts[j]?.getD (0, 0)) (pts[k]?.getD (0, 0)) ≠ 0

end Knee
