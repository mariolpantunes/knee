import Knee.Lemmas.ElbowCriteria
import Knee.Lemmas.ListMinMax
import Knee.Lemmas.Metrics
/-!
Kneedle without smoothing: the difference curve of any curve that takes its extreme coordinates at
its end points is the signed vertical distance to the chord, up to orientation (`kneedleDiffQ_ends`);
for an exact two-slope elbow that distance is `s1 - s2` times a tent (`IsElbow.chordDev_eq`).
-/
namespace Knee

theorem normQ_range (f : Nat → Rat) (n lo hi : Nat) (hlo : lo < n) (hhi : hi < n)
    (hmin : ∀ i, i < n → f lo ≤ f i) (hmax : ∀ i, i < n → f i ≤ f hi) (hne : f lo ≠ f hi) :
    normQ ((List.range n).map f) = (List.range n).map fun i => (f i - f lo) / (f hi - f lo) := by
  simp only [normQ, listMinQ_range f n lo hlo hmin, listMaxQ_range f n hi hhi hmax,
    if_neg (sub_ne_zero.mpr hne.symm), List.map_map, Function.comp_def]

theorem kneedleDiffQ_range {x y : Nat → Rat} {n : Nat} {xn yn : Nat → Rat} {b m : Rat}
    (hfit : fitQ ((List.range n).map x) ((List.range n).map y) = (b, m))
    (hxn : normQ ((List.range n).map x) = (List.range n).map xn)
    (hyn : normQ ((List.range n).map y) = (List.range n).map yn) :
    kneedleDiffQ ((List.range n).map x) ((List.range n).map y) =
      (List.range n).map fun i =>
        if 0 < m then
          (if 0 < ((List.range n).map fun i => y i - (x i * m + b)).sum
            then yn i - xn i else rabs (yn i - xn i))
        else
          (if 0 < ((List.range n).map fun i => y i - (x i * m + b)).sum
            then xn i + yn i else 1 - (xn i + yn i)) := by
  simp only [kneedleDiffQ, hfit, hxn, hyn, List.zipWith_map, List.zipWith_self, decide_eq_true_eq]

/-- slope of the chord through the first and the last point (what `linear_fit` returns) -/
def chordM (x y : Nat → Rat) (n : Nat) : Rat := (y 0 - y (n - 1)) / (x 0 - x (n - 1))

theorem fitQ_range (x y : Nat → Rat) {n : Nat} (hn : n ≠ 0) (hX : x 0 ≠ x (n - 1)) :
    fitQ ((List.range n).map x) ((List.range n).map y) =
      (y 0 - chordM x y n * x 0, chordM x y n) :=
  fitQ_map x y _ (by simp [List.head?_range, hn]) (by simp [List.getLast?_range, hn]) hX

/-- signed vertical distance `y − ŷ` of point `i` to the chord (`ŷ` is `linear_fit` evaluated at `x i`);
Kneedle's concavity vote is the sum of these.  `IsElbow.dev_nonneg` and `elbow_vote` spell the body
out; the two shapes are the same term, which proofs use without a rewriting step. -/
def chordDev (x y : Nat → Rat) (n i : Nat) : Rat :=
  y i - (x i * chordM x y n + (y 0 - chordM x y n * x 0))

/-- increasing curve (`X`, `Y` the extents in `x` and `y`): the difference of the normalised
coordinates is the vertical distance to the chord of slope `m = Y / X` over the rise `Y` -/
theorem norm_diff_inc {m X Y : Rat} (hm : m = Y / X) (dY : Y ≠ 0) (xi x0 yi y0 : Rat) :
    (yi - y0) / Y - (xi - x0) / X = (yi - (xi * m + (y0 - m * x0))) / Y := by
  have : yi - (xi * m + (y0 - m * x0)) = (yi - y0) - Y * ((xi - x0) / X) := by rw [hm]; ring
  rw [this, sub_div (yi - y0), mul_div_cancel_left₀ _ dY]

/-- decreasing curve (`y` normalised from its last value `yl`): their sum is one minus it -/
theorem norm_diff_dec {m X y0 yl : Rat} (hm : m = (yl - y0) / X) (dY : yl - y0 ≠ 0)
    (xi x0 yi : Rat) :
    (xi - x0) / X + (yi - yl) / (y0 - yl) = 1 - (yi - (xi * m + (y0 - m * x0))) / (yl - y0) := by
  rw [← norm_diff_inc hm dY, ← neg_sub yl y0, div_neg, ← neg_div, neg_sub]
  have : (yl - yi) / (yl - y0) = 1 - (yi - y0) / (yl - y0) := by
    rw [eq_sub_iff_add_eq, ← add_div, sub_add_sub_cancel, div_self dY]
  rw [this]
  ring

/-- `hx`, `hy`: both coordinates take their extreme values at the end points (every monotone curve).
The four branches are Kneedle's orientation conventions; the unit is the total rise. -/
theorem kneedleDiffQ_ends (x y : Nat → Rat) {n : Nat} (hn : n ≠ 0)
    (hx : ∀ i, i < n → x 0 ≤ x i ∧ x i ≤ x (n - 1)) (hX : x 0 < x (n - 1))
    (hy : (y 0 < y (n - 1) ∧ ∀ i, i < n → y 0 ≤ y i ∧ y i ≤ y (n - 1)) ∨
      (y (n - 1) < y 0 ∧ ∀ i, i < n → y (n - 1) ≤ y i ∧ y i ≤ y 0)) :
    kneedleDiffQ ((List.range n).map x) ((List.range n).map y) =
      (List.range n).map fun i =>
        if y 0 < y (n - 1) then
          (if 0 < ((List.range n).map (chordDev x y n)).sum
            then chordDev x y n i / (y (n - 1) - y 0)
            else rabs (chordDev x y n i / (y (n - 1) - y 0)))
        else
          (if 0 < ((List.range n).map (chordDev x y n)).sum
            then 1 - chordDev x y n i / (y (n - 1) - y 0)
            else chordDev x y n i / (y (n - 1) - y 0)) := by
  unfold chordDev
  have h0 : 0 < n := Nat.pos_of_ne_zero hn
  have hl : n - 1 < n := by omega
  have hm : chordM x y n = (y (n - 1) - y 0) / (x (n - 1) - x 0) := by
    rw [chordM, ← neg_sub (y (n - 1)), ← neg_sub (x (n - 1)), neg_div_neg_eq]
  have hxn := normQ_range x n 0 (n - 1) h0 hl (fun i hi => (hx i hi).1) (fun i hi => (hx i hi).2)
    hX.ne
  have hXp : 0 < x (n - 1) - x 0 := sub_pos.mpr hX
  rcases hy with ⟨hY, hy⟩ | ⟨hY, hy⟩
  · have hYp : 0 < y (n - 1) - y 0 := sub_pos.mpr hY
    have hmpos : 0 < chordM x y n := hm ▸ div_pos hYp hXp
    rw [kneedleDiffQ_range (fitQ_range x y hn hX.ne) hxn
      (normQ_range y n 0 (n - 1) h0 hl (fun i hi => (hy i hi).1) (fun i hi => (hy i hi).2) hY.ne)]
    simp only [if_pos hmpos, if_pos hY, norm_diff_inc hm hYp.ne']
  · have hYn : y (n - 1) - y 0 < 0 := sub_neg.mpr hY
    have hmneg : ¬ 0 < chordM x y n := hm ▸ not_lt.mpr (div_neg_of_neg_of_pos hYn hXp).le
    rw [kneedleDiffQ_range (fitQ_range x y hn hX.ne) hxn
      (normQ_range y n (n - 1) 0 hl h0 (fun i hi => (hy i hi).1) (fun i hi => (hy i hi).2) hY.ne)]
    simp only [if_neg hmneg, if_neg (not_lt.mpr hY.le), norm_diff_dec hm hYn.ne, sub_sub_cancel]

section chord
variable {x y : Nat → Rat} {n c : Nat} {s1 s2 : Rat}

theorem IsElbow.chordM_eq (h : IsElbow x y n c s1 s2) :
    chordM x y n = (s1 * (x c - x 0) + s2 * (x (n - 1) - x c)) / (x (n - 1) - x 0) := by
  rw [chordM, h.y_last, ← neg_sub (x (n - 1)), ← neg_div_neg_eq, neg_neg]
  congr 1
  ring

/-- the tent over `[x 0, x (n-1)]` with its apex at the corner -/
def tent (x : Nat → Rat) (n c i : Nat) : Rat :=
  if i ≤ c then (x (n - 1) - x c) * (x i - x 0) else (x c - x 0) * (x (n - 1) - x i)

theorem tent_right (x : Nat → Rat) (n : Nat) {c i : Nat} (hi : c ≤ i) :
    tent x n c i = (x c - x 0) * (x (n - 1) - x i) := by
  unfold tent
  split_ifs with hic
  · rw [Nat.le_antisymm hic hi]; ring
  · rfl

theorem IsElbow.chordDev_eq (h : IsElbow x y n c s1 s2) (i : Nat) (hi : i < n) :
    chordDev x y n i = (s1 - s2) * tent x n c i / (x (n - 1) - x 0) := by
  unfold chordDev
  have hm : chordM x y n * (x (n - 1) - x 0) =
      s1 * (x c - x 0) + s2 * (x (n - 1) - x c) := by
    rw [h.chordM_eq, div_mul_cancel₀ _ h.span_pos.ne']
  rw [eq_div_iff h.span_pos.ne']
  rcases Nat.le_total i c with hic | hic
  · rw [tent, if_pos hic, h.left i hic]
    linear_combination (x 0 - x i) * hm
  · rw [tent_right x n hic, h.right i hic hi, h.y_corner]
    linear_combination (x 0 - x i) * hm

theorem IsElbow.tent_nonneg (h : IsElbow x y n c s1 s2) (i : Nat) (hi : i < n) :
    0 ≤ tent x n c i := by
  unfold tent
  split_ifs
  · exact mul_nonneg h.arm2_span_pos.le (sub_nonneg.mpr (h.x_mono (Nat.zero_le i) hi))
  · exact mul_nonneg h.arm1_span_pos.le (sub_nonneg.mpr
      (h.x_mono (Nat.le_sub_one_of_lt hi) (Nat.sub_one_lt (Nat.ne_zero_of_lt hi))))

theorem IsElbow.tent_corner (h : IsElbow x y n c s1 s2) : 0 < tent x n c c := by
  rw [tent, if_pos (Nat.le_refl c)]
  exact mul_pos h.arm2_span_pos h.arm1_span_pos

theorem IsElbow.tent_up (h : IsElbow x y n c s1 s2) (i : Nat) (hi : i < c) :
    tent x n c i < tent x n c (i + 1) := by
  have hx := h.x_lt (Nat.lt_succ_self i) (Nat.lt_of_le_of_lt (Nat.succ_le_of_lt hi) h.corner_lt)
  rw [tent, tent, if_pos hi.le, if_pos (Nat.succ_le_of_lt hi)]
  exact mul_lt_mul_of_pos_left (sub_lt_sub_right hx _) h.arm2_span_pos

theorem IsElbow.tent_down (h : IsElbow x y n c s1 s2) (i : Nat) (hi : c ≤ i) (hn : i + 1 < n) :
    tent x n c (i + 1) < tent x n c i := by
  have hx := h.x_lt (Nat.lt_succ_self i) hn
  rw [tent_right x n hi, tent_right x n (Nat.le_succ_of_le hi)]
  exact mul_lt_mul_of_pos_left (sub_lt_sub_left hx _) h.arm1_span_pos

/-- signed distance to the chord (`chordDev x y n i`, written out): non-negative for `s2 < s1` -/
theorem IsElbow.dev_nonneg (h : IsElbow x y n c s1 s2) (hs : s2 < s1) (i : Nat) (hi : i < n) :
    0 ≤ y i - (x i * chordM x y n + (y 0 - chordM x y n * x 0)) := by
  rw [← chordDev, h.chordDev_eq i hi]
  exact div_nonneg (mul_nonneg (sub_nonneg.mpr hs.le) (h.tent_nonneg i hi)) h.span_pos.le

theorem IsElbow.chordDev_nonpos (h : IsElbow x y n c s1 s2) (hs : s1 < s2) (i : Nat)
    (hi : i < n) : chordDev x y n i ≤ 0 := by
  rw [h.chordDev_eq i hi]
  exact div_nonpos_of_nonpos_of_nonneg
    (mul_nonpos_of_nonpos_of_nonneg (sub_nonpos.mpr hs.le) (h.tent_nonneg i hi)) h.span_pos.le

end chord

end Knee
