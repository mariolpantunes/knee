import Knee.Model.Filters
/-! `worstGo` / `worstFilter`: sublist, running minimum (`mem_worstGo`), fixed points; and
congruence: a filter consults its oracle only on its input. -/
namespace Knee

theorem worstGo_sublist (h : Nat → Rat) (m : Rat) (ks : List Nat) :
    (worstGo h m ks).Sublist ks := by
  fun_induction worstGo h m ks with
  | case1 => exact .slnil
  | case2 _ _ _ _ ih => exact ih.cons_cons _
  | case3 _ _ _ _ ih => exact ih.cons _

theorem worstGo_le (h : Nat → Rat) (m : Rat) (ks : List Nat) :
    ∀ k ∈ worstGo h m ks, h k ≤ m := by
  fun_induction worstGo h m ks with
  | case1 => exact fun _ hk => nomatch hk
  | case2 m a ks ha ih =>
    exact List.forall_mem_cons.2 ⟨ha, fun k hk => Rat.le_trans (ih k hk) ha⟩
  | case3 _ _ _ _ ih => exact ih

theorem worstGo_pairwise (h : Nat → Rat) (m : Rat) (ks : List Nat) :
    (worstGo h m ks).Pairwise (fun a b => h b ≤ h a) := by
  fun_induction worstGo h m ks with
  | case1 => exact .nil
  | case2 _ a ks _ ih => exact .cons (worstGo_le h (h a) ks) ih
  | case3 _ _ _ _ ih => exact ih

theorem worstGo_fix (h : Nat → Rat) (m : Rat) (ks : List Nat)
    (hp : ks.Pairwise (fun a b => h b ≤ h a)) (hm : ∀ k ∈ ks, h k ≤ m) :
    worstGo h m ks = ks := by
  fun_induction worstGo h m ks with
  | case1 => rfl
  | case2 m a ks _ ih => rw [ih (List.pairwise_cons.1 hp).2 (List.pairwise_cons.1 hp).1]
  | case3 m a ks ha => exact absurd (hm a List.mem_cons_self) ha

/-- `k` is kept iff it is at most the running minimum when it is reached, and the running minimum
is the least of the start value `m` and the heights met so far: hence "at most `m` and at most every
earlier input knee" (kept or dropped). -/
theorem mem_worstGo (h : Nat → Rat) (m : Rat) (ks : List Nat) (k : Nat) :
    k ∈ worstGo h m ks ↔
      h k ≤ m ∧ ∃ pre post, ks = pre ++ k :: post ∧ ∀ j ∈ pre, h k ≤ h j := by
  constructor
  · intro hk
    fun_induction worstGo h m ks with
    | case1 => cases hk
    | case2 m a ks ha ih =>
      rcases List.mem_cons.1 hk with rfl | hk
      · exact ⟨ha, [], ks, rfl, fun _ hj => nomatch hj⟩
      · obtain ⟨hka, pre, post, rfl, hp⟩ := ih hk
        exact ⟨Rat.le_trans hka ha, a :: pre, post, rfl, List.forall_mem_cons.2 ⟨hka, hp⟩⟩
    | case3 m a ks ha ih =>
      obtain ⟨hkm, pre, post, rfl, hp⟩ := ih hk
      -- `a` is dropped: it lies above `m`, so being at most `m` implies being at most `h a`
      exact ⟨hkm, a :: pre, post, rfl, List.forall_mem_cons.2
        ⟨(Rat.le_total (a := h k) (b := h a)).resolve_right fun hak => ha (Rat.le_trans hak hkm),
          hp⟩⟩
  · rintro ⟨hkm, pre, post, rfl, hp⟩
    -- whether a knee of `pre` is kept or dropped, the running minimum stays at least `h k`
    induction pre generalizing m with
    | nil =>
      rw [List.nil_append, worstGo, if_pos hkm]
      exact List.mem_cons_self
    | cons a pre ih =>
      have hp' := List.forall_mem_cons.1 hp
      rw [List.cons_append, worstGo]
      split
      · exact List.mem_cons_of_mem _ (ih _ hp'.1 hp'.2)
      · exact ih _ hkm hp'.2

theorem worstFilter_cons (h : Nat → Rat) (k : Nat) (ks : List Nat) :
    worstFilter h (k :: ks) = worstGo h (h k) (k :: ks) := by
  rw [worstGo, if_pos Rat.le_refl, worstFilter]

theorem worstGo_congr {h h' : Nat → Rat} {ks : List Nat} {m : Rat} (hk : ∀ k ∈ ks, h k = h' k) :
    worstGo h m ks = worstGo h' m ks := by
  induction ks generalizing m with
  | nil => rfl
  | cons k ks ih =>
    have h1 := hk k List.mem_cons_self
    have h2 : ∀ k ∈ ks, h k = h' k := fun x hx => hk x (List.mem_cons_of_mem _ hx)
    simp only [worstGo, h1, ih h2]

theorem worstFilter_congr {h h' : Nat → Rat} {ks : List Nat} (hk : ∀ k ∈ ks, h k = h' k) :
    worstFilter h ks = worstFilter h' ks := by
  cases ks with
  | nil => rfl
  | cons k ks =>
    rw [worstFilter_cons, worstFilter_cons, hk k List.mem_cons_self, worstGo_congr hk]

theorem cornerFilter_congr {n : Nat} {iou iou' : Nat → Rat} {t : Rat} {ks : List Nat}
    (hk : ∀ k ∈ ks, iou k = iou' k) : cornerFilter n iou t ks = cornerFilter n iou' t ks := by
  unfold cornerFilter
  apply List.filter_congr
  intro k hkm
  rw [hk k hkm]

end Knee
