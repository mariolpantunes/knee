import Knee.Model.Filters
import Knee.Lemmas.Rabs
import Mathlib.Algebra.Order.Ring.Rat
import Mathlib.Algebra.Order.Ring.Abs
/-! The model's `if`-written `rabs`, `rmax`, `rmin` are Mathlib's `|·|`, `max`, `min`: rewrite with these and
use the library's lemmas.  The facts about `rabs` that need them are here; the core-only ones are in `Lemmas/Rabs`, which
this module imports, so that a Mathlib-side file needs only this one. -/
namespace Knee

theorem rabs_eq_abs (x : Rat) : rabs x = |x| := by
  unfold rabs
  split_ifs with h
  · exact (abs_of_nonneg h).symm
  · exact (abs_of_neg (not_le.1 h)).symm

theorem rmax_eq_max (a b : Rat) : rmax a b = max a b := by
  unfold rmax; rw [max_def]

theorem rmin_eq_min (a b : Rat) : rmin a b = min a b := by
  unfold rmin; rw [min_def]

theorem rabs_mul (k a : Rat) : rabs (k * a) = rabs k * rabs a := by
  simp only [rabs_eq_abs, abs_mul]

theorem rabs_pos {k : Rat} (hk : k ≠ 0) : 0 < rabs k := by
  rw [rabs_eq_abs]; exact abs_pos.2 hk

theorem rabs_mul_left {k : Rat} (hk : 0 ≤ k) (a : Rat) : rabs (k * a) = k * rabs a := by
  rw [rabs_eq_abs, rabs_eq_abs, abs_mul, abs_of_nonneg hk]

theorem rabs_neg (x : Rat) : rabs (-x) = rabs x := by
  rw [rabs_eq_abs, rabs_eq_abs, abs_neg]

/-- in the order of SMAPE's term `|ŷ − y| / (|y| + |ŷ| + eps)` -/
theorem rabs_sub_le (a b : Rat) : rabs (b - a) ≤ rabs a + rabs b := by
  rw [rabs_eq_abs, rabs_eq_abs, rabs_eq_abs, add_comm]
  exact abs_sub b a

end Knee
