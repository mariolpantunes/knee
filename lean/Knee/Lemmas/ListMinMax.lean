import Knee.Model.KneedleQ
import Knee.Model.ClusterFilter
import Mathlib.Algebra.Order.Ring.Rat
/-! The model's running extrema, folded from the head of the list: `listMax` (`if a ≤ b then b else a`) and `listMaxQ`
(`if a < b then b else a`) are the same function, core's `List.max?` with default `0`, and `listMinQ`
(`if b < a then b else a`) is `List.min?`.  Each returns the member that bounds all members, and that characterises it. -/
namespace Knee

theorem listMax_eq_max? (l : List Rat) : listMax l = l.max?.getD 0 := by
  cases l with
  | nil => rfl
  | cons a l =>
    have e : (fun a b : Rat => if a ≤ b then b else a) = max := by funext a b; exact (max_def a b).symm
    simp only [listMax, List.head?_cons, Option.getD_some, List.foldl_cons, List.max?_cons', e, max_self]

theorem listMaxQ_eq_listMax : listMaxQ = listMax := by
  have e : (fun a b : Rat => if a < b then b else a) = fun a b => if a ≤ b then b else a := by
    funext a b
    split_ifs with h1 h2 h2
    · rfl
    · exact absurd h1.le h2
    · exact le_antisymm h2 (not_lt.1 h1)
    · rfl
  funext l
  simp only [listMaxQ, listMax, e]

theorem listMinQ_eq_min? (l : List Rat) : listMinQ l = l.min?.getD 0 := by
  cases l with
  | nil => rfl
  | cons a l =>
    have e : (fun a b : Rat => if b < a then b else a) = min := by
      funext a b
      rw [min_def]
      split_ifs with h1 h2 h2
      · exact le_antisymm h1.le h2
      · rfl
      · rfl
      · exact absurd (not_lt.1 h1) h2
    simp only [listMinQ, List.head?_cons, Option.getD_some, List.foldl_cons, List.min?_cons', e, min_self]

theorem listMax_spec {l : List Rat} (hl : l ≠ []) : listMax l ∈ l ∧ ∀ w ∈ l, w ≤ listMax l := by
  obtain ⟨m, hm⟩ := Option.isSome_iff_exists.1 (List.isSome_max?_of_ne_nil hl)
  rw [listMax_eq_max?, hm]
  exact List.max?_eq_some_iff.1 hm

theorem listMinQ_spec {l : List Rat} (hl : l ≠ []) : listMinQ l ∈ l ∧ ∀ w ∈ l, listMinQ l ≤ w := by
  obtain ⟨m, hm⟩ := Option.isSome_iff_exists.1 (List.isSome_min?_of_ne_nil hl)
  rw [listMinQ_eq_min?, hm]
  exact List.min?_eq_some_iff.1 hm

theorem listMax_mem (l : List Rat) (hl : l ≠ []) : listMax l ∈ l := (listMax_spec hl).1

theorem le_listMax (l : List Rat) (v : Rat) (hv : v ∈ l) : v ≤ listMax l :=
  (listMax_spec (List.ne_nil_of_mem hv)).2 v hv

theorem listMax_eq {l : List Rat} {v : Rat} (hv : v ∈ l) (hle : ∀ w ∈ l, w ≤ v) : listMax l = v :=
  have h := listMax_spec (List.ne_nil_of_mem hv)
  le_antisymm (hle _ h.1) (h.2 v hv)

theorem listMinQ_eq {l : List Rat} {v : Rat} (hv : v ∈ l) (hle : ∀ w ∈ l, v ≤ w) : listMinQ l = v :=
  have h := listMinQ_spec (List.ne_nil_of_mem hv)
  le_antisymm (h.2 v hv) (hle _ h.1)

theorem listMax_map {g : Rat → Rat} (hg : Monotone g) {l : List Rat} (hl : l ≠ []) :
    listMax (l.map g) = g (listMax l) :=
  have h := listMax_spec hl
  listMax_eq (List.mem_map_of_mem h.1) fun _ hw => by
    obtain ⟨u, hu, rfl⟩ := List.mem_map.1 hw
    exact hg (h.2 u hu)

theorem listMinQ_map {g : Rat → Rat} (hg : Monotone g) {l : List Rat} (hl : l ≠ []) :
    listMinQ (l.map g) = g (listMinQ l) :=
  have h := listMinQ_spec hl
  listMinQ_eq (List.mem_map_of_mem h.1) fun _ hw => by
    obtain ⟨u, hu, rfl⟩ := List.mem_map.1 hw
    exact hg (h.2 u hu)

theorem listMax_nil : listMax [] = 0 := rfl

theorem listMax_map_mul {k : Rat} (hk : 0 ≤ k) (l : List Rat) : listMax (l.map fun v => k * v) = k * listMax l := by
  by_cases hl : l = []
  · subst hl; exact (mul_zero k).symm
  · exact listMax_map (fun _ _ h => mul_le_mul_of_nonneg_left h hk) hl

theorem listMax_nonneg {l : List Rat} (hnn : ∀ v ∈ l, 0 ≤ v) : 0 ≤ listMax l := by
  by_cases hl : l = []
  · subst hl; exact le_refl _
  · exact hnn _ (listMax_mem l hl)

theorem listMax_eq_zero_iff (l : List Rat) (hnn : ∀ v ∈ l, 0 ≤ v) : listMax l = 0 ↔ ∀ v ∈ l, v = 0 := by
  constructor
  · exact fun h v hv => le_antisymm (h ▸ le_listMax l v hv) (hnn v hv)
  · intro h
    by_cases hl : l = []
    · subst hl; rfl
    · exact h _ (listMax_mem l hl)

theorem listMinQ_range (f : Nat → Rat) (n k : Nat) (hk : k < n) (hle : ∀ i, i < n → f k ≤ f i) :
    listMinQ ((List.range n).map f) = f k := by
  refine listMinQ_eq (List.mem_map.mpr ⟨k, List.mem_range.mpr hk, rfl⟩) fun w hw => ?_
  obtain ⟨i, hi, rfl⟩ := List.mem_map.mp hw
  exact hle i (List.mem_range.mp hi)

theorem listMaxQ_range (f : Nat → Rat) (n k : Nat) (hk : k < n) (hle : ∀ i, i < n → f i ≤ f k) :
    listMaxQ ((List.range n).map f) = f k := by
  rw [listMaxQ_eq_listMax]
  refine listMax_eq (List.mem_map.mpr ⟨k, List.mem_range.mpr hk, rfl⟩) fun w hw => ?_
  obtain ⟨i, hi, rfl⟩ := List.mem_map.mp hw
  exact hle i (List.mem_range.mp hi)

end Knee
