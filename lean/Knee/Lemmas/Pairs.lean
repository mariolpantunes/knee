/-!
Consecutive pairs `l.zip l.tail`.  The model walks a list by its consecutive pairs in several spellings: `pairsOf l`
(recursive, `Model/GlobalCost`), `(a :: ks).zip ks` (`gapsOf` at `a = 0`, `chainFrom` of `Lemmas/EvalTrace`, the corners ranked by
`rankCornersGo`; with the components swapped `nbArgs`),
`ks.zip (ks.drop 1)` (`gapsOfKnees`); each is `l.zip l.tail` for its `l`.  Core Lean only.
-/
namespace Knee

variable {α : Type}

theorem zip_tail_rel {R : α → α → Prop} : ∀ {l : List α}, l.Pairwise R → ∀ p ∈ l.zip l.tail, R p.1 p.2
  | [], _, _, hp => nomatch hp
  | [_], _, _, hp => nomatch hp
  | a :: b :: t, h, p, hp => by
    rcases List.mem_cons.1 hp with rfl | hp
    · exact List.rel_of_pairwise_cons h List.mem_cons_self
    · exact zip_tail_rel (List.pairwise_cons.1 h).2 p hp

/-- proved again for `l.tail.zip l`: `List.zip_swap`, which would give it from `zip_tail_rel`, is Mathlib's -/
theorem tail_zip_rel {R : α → α → Prop} : ∀ {l : List α}, l.Pairwise R → ∀ p ∈ l.tail.zip l, R p.2 p.1
  | [], _, _, hp => nomatch hp
  | [_], _, _, hp => nomatch hp
  | a :: b :: t, h, p, hp => by
    rcases List.mem_cons.1 hp with rfl | hp
    · exact List.rel_of_pairwise_cons h List.mem_cons_self
    · exact tail_zip_rel (List.pairwise_cons.1 h).2 p hp

theorem mem_of_mem_zip_tail {l : List α} {p : α × α} (hp : p ∈ l.zip l.tail) : p.1 ∈ l ∧ p.2 ∈ l :=
  ⟨(List.of_mem_zip hp).1, List.mem_of_mem_tail (List.of_mem_zip hp).2⟩

theorem length_zip_tail (l : List α) : (l.zip l.tail).length = l.length - 1 := by
  rw [List.length_zip, List.length_tail]
  exact Nat.min_eq_right (Nat.sub_le ..)

end Knee
