import Knee.Model.EvenPoints
/-!
For `add_points_even` / `add_points_even_knees` (C14): the inserted index list, `np.unique`
(`dedupSort`), and the segment positions and local `pairs` recursion of `addEven`.
-/
namespace Knee

theorem mem_evenInsert {l r k x : Nat} :
    x ∈ evenInsert l r k ↔ ∃ j, j < k ∧ x = l + (j + 1) * ((r - l) / k) := by
  simp only [evenInsert, List.mem_map, List.mem_range, eq_comm]

theorem evenInsert_le {l r k x : Nat} (hlr : l ≤ r) (hx : x ∈ evenInsert l r k) : x ≤ r := by
  rcases mem_evenInsert.1 hx with ⟨j, hj, rfl⟩
  have h1 : (j + 1) * ((r - l) / k) ≤ k * ((r - l) / k) := Nat.mul_le_mul_right _ hj
  exact Nat.add_le_of_le_sub' hlr (Nat.le_trans h1 (Nat.mul_div_le _ _))

theorem mem_insertUniq {x y : Nat} {l : List Nat} : y ∈ insertUniq x l ↔ y = x ∨ y ∈ l := by
  fun_induction insertUniq x l with
  | case1 => simp
  | case2 => simp
  | case3 => simp
  | case4 a t _ _ ih => rw [List.mem_cons, ih, List.mem_cons, or_left_comm]

theorem insertUniq_strict (x : Nat) {l : List Nat} (hp : l.Pairwise (· < ·)) :
    (insertUniq x l).Pairwise (· < ·) := by
  fun_induction insertUniq x l with
  | case1 => exact List.pairwise_singleton _ _
  | case2 a t hxa =>
    exact List.pairwise_cons.2 ⟨List.forall_mem_cons.2
      ⟨hxa, fun b hb => Nat.lt_trans hxa ((List.pairwise_cons.1 hp).1 b hb)⟩, hp⟩
  | case3 => exact hp
  | case4 a t hxa hxe ih =>
    have hp' := List.pairwise_cons.1 hp
    refine List.pairwise_cons.2 ⟨fun b hb => ?_, ih hp'.2⟩
    rcases mem_insertUniq.1 hb with rfl | hb
    · exact Nat.lt_of_le_of_ne (Nat.le_of_not_lt hxa) (Ne.symm hxe)
    · exact hp'.1 b hb

theorem dedupSort_cons (a : Nat) (t : List Nat) :
    dedupSort (a :: t) = insertUniq a (dedupSort t) := rfl

theorem insertUniq_of_lt (a : Nat) : ∀ {t : List Nat}, (∀ b ∈ t, a < b) → insertUniq a t = a :: t := by
  intro t h
  cases t with
  | nil => rfl
  | cons b t => simp [insertUniq, h b (List.mem_cons_self)]

/-- membership in the candidate list (the argument of `dedupSort`) of both `add_points_even` variants -/
theorem mem_evenCands {x n m : Nat} {a : List Nat} {wide : Nat → Bool} {g : Nat → List Nat}
    {extremes : Bool} :
    x ∈ a ++ ((List.range m).filter wide).flatMap g ++ (if extremes then [0, n - 1] else []) ↔
      x ∈ a ∨ (∃ i, i < m ∧ wide i = true ∧ x ∈ g i) ∨
        (extremes = true ∧ (x = 0 ∨ x = n - 1)) := by
  cases extremes <;> simp [and_assoc]

theorem segPositions_mono (segs : List Nat) (hp : segs.Pairwise (· < ·)) :
    (segs.flatMap fun i => [i, i + 1]).Pairwise (· ≤ ·) := by
  rw [List.pairwise_flatMap]
  refine ⟨fun a _ => by simp, hp.imp fun hab x hx y hy => ?_⟩
  simp only [List.mem_cons, List.not_mem_nil, or_false] at hx hy
  omega

/-- `pairs` run on candidates of the shape `(positions).map f`: the shape in which
`mapping_computeRemoved` (C07) leaves them, with `f i = reduced[i]` -/
theorem pairs_eq (npts : Nat → Nat) (f : Nat → Nat) (segs : List Nat) :
    addEven.pairs npts segs ((segs.flatMap fun i => [i, i + 1]).map f)
      = segs.flatMap fun i => evenInsert (f i) (f (i + 1)) (npts i) := by
  induction segs with
  | nil => simp [addEven.pairs]
  | cons a t ih =>
    simp only [List.flatMap_cons, List.cons_append, List.nil_append, List.map_cons,
      addEven.pairs, ih]

end Knee
