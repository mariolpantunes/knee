import Knee.Model.Elbow
import Knee.Lemmas.GetD
import Knee.Props.C17
import Mathlib.Tactic.FieldSimp
/-!
For C03: the three-point formulas of the curvature and Menger criteria on three points that change
slope at the middle one (`e1`, `e3`: slope `s1` before, `s2` after); the two arms of an `IsElbow`
(triples of neighbours for the criteria, spans and monotonicity for Kneedle).  The first / last /
interior stencils of `uts.gradient` are treated once, through `stencil`.
-/
namespace Knee

theorem sub_ne_zero_of_three {x1 x2 x3 : Rat} (h12 : x1 ≠ x2) (h13 : x1 ≠ x3) (h23 : x2 ≠ x3) :
    x1 - x2 ≠ 0 ∧ x1 - x3 ≠ 0 ∧ x2 - x3 ≠ 0 ∧ x2 - x1 ≠ 0 ∧ x3 - x1 ≠ 0 ∧ x3 - x2 ≠ 0 :=
  ⟨sub_ne_zero.mpr h12, sub_ne_zero.mpr h13, sub_ne_zero.mpr h23, sub_ne_zero.mpr h12.symm,
    sub_ne_zero.mpr h13.symm, sub_ne_zero.mpr h23.symm⟩

theorem secondD_slopes {s1 s2 x1 x2 x3 y1 y2 y3 : Rat} (h12 : x1 ≠ x2) (h13 : x1 ≠ x3)
    (h23 : x2 ≠ x3)
    (e1 : y1 = y2 + s1 * (x1 - x2)) (e3 : y3 = y2 + s2 * (x3 - x2)) :
    secondD x1 x2 x3 y1 y2 y3 = 2 * (s2 - s1) / (x3 - x1) := by
  obtain ⟨d12, d13, d23, d21, d31, d32⟩ := sub_ne_zero_of_three h12 h13 h23
  subst e1 e3
  unfold secondD
  field_simp
  ring

/-- the last term is `(xe − x2)` times the second derivative: `xe = x2` gives the corner gradient,
`s1 = s2` the slope at every `xe` -/
theorem lagrangeD_slopes {xe s1 s2 x1 x2 x3 y1 y2 y3 : Rat} (h12 : x1 ≠ x2) (h13 : x1 ≠ x3)
    (h23 : x2 ≠ x3)
    (e1 : y1 = y2 + s1 * (x1 - x2)) (e3 : y3 = y2 + s2 * (x3 - x2)) :
    lagrangeD xe x1 x2 x3 y1 y2 y3 =
      (s1 * (x3 - x2) + s2 * (x2 - x1) + 2 * (s2 - s1) * (xe - x2)) / (x3 - x1) := by
  obtain ⟨d12, d13, d23, d21, d31, d32⟩ := sub_ne_zero_of_three h12 h13 h23
  subst e1 e3
  unfold lagrangeD
  field_simp
  ring

theorem lagrangeD_line {xe s x1 x2 x3 y1 y2 y3 : Rat} (h12 : x1 ≠ x2) (h13 : x1 ≠ x3)
    (h23 : x2 ≠ x3) (e1 : y1 = y2 + s * (x1 - x2)) (e3 : y3 = y2 + s * (x3 - x2)) :
    lagrangeD xe x1 x2 x3 y1 y2 y3 = s := by
  rw [lagrangeD_slopes h12 h13 h23 e1 e3, sub_self, mul_zero, zero_mul,
    add_zero, ← mul_add, sub_add_sub_cancel, mul_div_assoc, div_self (sub_ne_zero.mpr h13.symm),
    mul_one]

/-- the cross product in `menger_curvature(p2, p1, p3)` -/
theorem cross_slopes {s1 s2 x1 x2 x3 y1 y2 y3 : Rat}
    (e1 : y1 = y2 + s1 * (x1 - x2)) (e3 : y3 = y2 + s2 * (x3 - x2)) :
    cross (sub (x1, y1) (x2, y2)) (sub (x3, y3) (x1, y1)) = (x1 - x2) * (x3 - x2) * (s2 - s1) := by
  subst e1 e3
  simp only [cross, sub]
  ring

theorem mengerSq_slopes_pos {s1 s2 x1 x2 x3 y1 y2 y3 : Rat} (h12 : x1 ≠ x2) (h23 : x2 ≠ x3)
    (hs : s1 ≠ s2) (e1 : y1 = y2 + s1 * (x1 - x2)) (e3 : y3 = y2 + s2 * (x3 - x2)) : 0 < mengerSq (x2, y2) (x1, y1) (x3, y3) := by
  refine lt_of_le_of_ne (mengerSq_nonneg _ _ _) fun e => ?_
  have hc := (mengerSq_zero_iff _ _ _).mp e.symm
  rw [cross_slopes e1 e3] at hc
  exact mul_ne_zero (mul_ne_zero (sub_ne_zero.mpr h12) (sub_ne_zero.mpr h23.symm))
    (sub_ne_zero.mpr hs.symm) hc

section elbow
variable {x y : Nat → Rat} {n c : Nat} {s1 s2 : Rat}

theorem IsElbow.x_lt (h : IsElbow x y n c s1 s2) {i j : Nat} (hij : i < j) (hj : j < n) :
    x i < x j := h.xinc i j hij hj

theorem IsElbow.corner_lt (h : IsElbow x y n c s1 s2) : c < n := by have := h.arm2; omega

theorem IsElbow.left_eq (h : IsElbow x y n c s1 s2) {i j : Nat} (hi : i ≤ c) (hj : j ≤ c) :
    y i = y j + s1 * (x i - x j) := by
  rw [h.left i hi, h.left j hj]; ring

theorem IsElbow.right_eq (h : IsElbow x y n c s1 s2) {i j : Nat} (hi : c ≤ i) (hin : i < n)
    (hj : c ≤ j) (hjn : j < n) : y i = y j + s2 * (x i - x j) := by
  rw [h.right i hi hin, h.right j hj hjn]; ring

theorem IsElbow.neg (h : IsElbow x y n c s1 s2) : IsElbow x (fun i => -y i) n c (-s1) (-s2) where
  xinc := h.xinc
  left i hi := by rw [h.left i hi]; ring
  right i hi hn := by rw [h.right i hi hn]; ring
  slopes e := h.slopes (neg_injective e)
  arm1 := h.arm1
  arm2 := h.arm2

theorem IsElbow.arm1_span_pos (h : IsElbow x y n c s1 s2) : 0 < x c - x 0 := by
  have h1 := h.arm1
  exact sub_pos.mpr (h.x_lt (by omega) h.corner_lt)

theorem IsElbow.arm2_span_pos (h : IsElbow x y n c s1 s2) : 0 < x (n - 1) - x c := by
  have h2 := h.arm2
  exact sub_pos.mpr (h.x_lt (by omega) (by omega))

theorem IsElbow.span_pos (h : IsElbow x y n c s1 s2) : 0 < x (n - 1) - x 0 :=
  sub_add_sub_cancel _ (x c) _ ▸ add_pos h.arm2_span_pos h.arm1_span_pos

theorem IsElbow.x_mono (h : IsElbow x y n c s1 s2) {i j : Nat} (hij : i ≤ j) (hj : j < n) :
    x i ≤ x j := le_of_strict h.xinc i j hij hj

theorem IsElbow.y_corner (h : IsElbow x y n c s1 s2) : y c = y 0 + s1 * (x c - x 0) :=
  h.left c (Nat.le_refl c)

theorem IsElbow.y_last (h : IsElbow x y n c s1 s2) :
    y (n - 1) = y 0 + s1 * (x c - x 0) + s2 * (x (n - 1) - x c) := by
  have h2 := h.arm2
  rw [h.right (n - 1) (by omega) (by omega), h.y_corner]

theorem IsElbow.y_mono (h : IsElbow x y n c s1 s2) (h1 : 0 ≤ s1) (h2 : 0 ≤ s2) {i j : Nat}
    (hij : i ≤ j) (hj : j < n) : y i ≤ y j := by
  have hcn := h.corner_lt
  rcases Nat.le_total j c with hjc | hjc
  · rw [h.left_eq hjc (hij.trans hjc)]
    exact le_add_of_nonneg_right (mul_nonneg h1 (sub_nonneg.mpr (h.x_mono hij hj)))
  · rcases Nat.le_total c i with hic | hic
    · rw [h.right_eq hjc hj hic (by omega)]
      exact le_add_of_nonneg_right (mul_nonneg h2 (sub_nonneg.mpr (h.x_mono hij hj)))
    · rw [h.right j hjc hj, h.left_eq (Nat.le_refl c) hic]
      exact (le_add_of_nonneg_right (mul_nonneg h1 (sub_nonneg.mpr (h.x_mono hic hcn)))).trans
        (le_add_of_nonneg_right (mul_nonneg h2 (sub_nonneg.mpr (h.x_mono hjc hj))))

theorem IsElbow.y_ends_inc (h : IsElbow x y n c s1 s2) (h1 : 0 ≤ s1) (h2 : 0 ≤ s2) :
    y 0 < y (n - 1) ∧ ∀ i, i < n → y 0 ≤ y i ∧ y i ≤ y (n - 1) := by
  have hcn := h.corner_lt
  refine ⟨?_, fun i hi =>
    ⟨h.y_mono h1 h2 (Nat.zero_le i) hi, h.y_mono h1 h2 (by omega) (by omega)⟩⟩
  rw [h.y_last, add_assoc]
  -- the slopes differ, so one of them is positive
  rcases lt_or_eq_of_le h1 with p | p
  · exact lt_add_of_pos_right _ (add_pos_of_pos_of_nonneg (mul_pos p h.arm1_span_pos)
      (mul_nonneg h2 h.arm2_span_pos.le))
  · have : 0 < s2 := lt_of_le_of_ne h2 (fun e => h.slopes (p.symm.trans e))
    exact lt_add_of_pos_right _ (add_pos_of_nonneg_of_pos (mul_nonneg h1 h.arm1_span_pos.le)
      (mul_pos this h.arm2_span_pos))

theorem IsElbow.y_ends_dec (h : IsElbow x y n c s1 s2) (h1 : s1 ≤ 0) (h2 : s2 ≤ 0) :
    y (n - 1) < y 0 ∧ ∀ i, i < n → y (n - 1) ≤ y i ∧ y i ≤ y 0 := by
  obtain ⟨a, b⟩ := h.neg.y_ends_inc (neg_nonneg.mpr h1) (neg_nonneg.mpr h2)
  exact ⟨neg_lt_neg_iff.mp a,
    fun i hi => ⟨neg_le_neg_iff.mp (b i hi).2, neg_le_neg_iff.mp (b i hi).1⟩⟩

theorem IsElbow.triple_ne (h : IsElbow x y n c s1 s2) {j : Nat} (hj1 : 1 ≤ j) (hjn : j + 1 < n) :
    x (j - 1) ≠ x j ∧ x (j - 1) ≠ x (j + 1) ∧ x j ≠ x (j + 1) :=
  ⟨(h.x_lt (by omega) (by omega)).ne, (h.x_lt (by omega) hjn).ne, (h.x_lt (by omega) hjn).ne⟩

/-- One statement for both arms: `csd_off` and `menger_elbow_off` only need that the two slopes
agree, `cfd_off` also which one it is. -/
theorem IsElbow.triple_off (h : IsElbow x y n c s1 s2) {j : Nat} (hjn : j + 1 < n) (hjc : j ≠ c) :
    y (j - 1) = y j + (if j < c then s1 else s2) * (x (j - 1) - x j) ∧
      y (j + 1) = y j + (if j < c then s1 else s2) * (x (j + 1) - x j) := by
  have hjn' : j < n := Nat.lt_of_succ_lt hjn
  split_ifs with hlt
  · exact ⟨h.left_eq ((Nat.sub_le j 1).trans hlt.le) hlt.le, h.left_eq hlt hlt.le⟩
  · have hcj : c < j := by omega
    exact ⟨h.right_eq (Nat.le_sub_one_of_lt hcj) ((Nat.sub_le j 1).trans_lt hjn') hcj.le hjn',
      h.right_eq (Nat.le_succ_of_le hcj.le) hjn hcj.le hjn'⟩

theorem IsElbow.triple_corner (h : IsElbow x y n c s1 s2) :
    y (c - 1) = y c + s1 * (x (c - 1) - x c) ∧ y (c + 1) = y c + s2 * (x (c + 1) - x c) := by
  have := h.arm2
  exact ⟨h.left_eq (by omega) (Nat.le_refl c),
    h.right_eq (by omega) (by omega) (Nat.le_refl c) h.corner_lt⟩

theorem IsElbow.triple_corner_ne (h : IsElbow x y n c s1 s2) :
    x (c - 1) ≠ x c ∧ x (c - 1) ≠ x (c + 1) ∧ x c ≠ x (c + 1) := by
  have := h.arm1
  have := h.arm2
  exact h.triple_ne (by omega) (by omega)

/-- centre of the three-point stencil that `uts.gradient` (`cfd`, `csd`) uses at point `i` of `n`: the
end points borrow their neighbour's -/
def stencil (n i : Nat) : Nat := if i = 0 then 1 else if i + 1 = n then n - 2 else i

theorem csdQ_eq (x y : Nat → Rat) (n i : Nat) :
    csdQ x y n i = secondD (x (stencil n i - 1)) (x (stencil n i)) (x (stencil n i + 1))
      (y (stencil n i - 1)) (y (stencil n i)) (y (stencil n i + 1)) := rfl

theorem cfdQ_eq (x y : Nat → Rat) (n i : Nat) :
    cfdQ x y n i = lagrangeD (x i) (x (stencil n i - 1)) (x (stencil n i)) (x (stencil n i + 1))
      (y (stencil n i - 1)) (y (stencil n i)) (y (stencil n i + 1)) := by
  unfold cfdQ stencil
  split_ifs with h0 h1
  · rw [h0]
  · have e : n - 2 + 1 = n - 1 := by omega
    rw [e, ← h1]; rfl
  · rfl

/-- arms of at least two segments (`arm1`, `arm2`) keep the borrowed centres `1` and `n - 2` on the arm
of their end point and off the corner -/
theorem IsElbow.stencil_spec (h : IsElbow x y n c s1 s2) {i : Nat} (hi : i < n) :
    1 ≤ stencil n i ∧ stencil n i + 1 < n ∧ (stencil n i < c ↔ i < c) ∧
      (stencil n i = c ↔ i = c) := by
  have := h.arm1
  have := h.arm2
  unfold stencil
  split_ifs <;> omega

theorem IsElbow.stencil_corner (h : IsElbow x y n c s1 s2) : stencil n c = c :=
  (h.stencil_spec h.corner_lt).2.2.2.mpr rfl

theorem IsElbow.csd_off (h : IsElbow x y n c s1 s2) (i : Nat) (hi : i < n) (hic : i ≠ c) :
    csdQ x y n i = 0 := by
  obtain ⟨j1, jn, -, jc⟩ := h.stencil_spec hi
  obtain ⟨e1, e3⟩ := h.triple_off jn (mt jc.mp hic)
  obtain ⟨n12, n13, n23⟩ := h.triple_ne j1 jn
  rw [csdQ_eq, secondD_slopes n12 n13 n23 e1 e3, sub_self, mul_zero, zero_div]

theorem IsElbow.cfd_off (h : IsElbow x y n c s1 s2) (i : Nat) (hi : i < n) (hic : i ≠ c) :
    cfdQ x y n i = if i < c then s1 else s2 := by
  obtain ⟨j1, jn, jlt, jc⟩ := h.stencil_spec hi
  obtain ⟨e1, e3⟩ := h.triple_off jn (mt jc.mp hic)
  obtain ⟨n12, n13, n23⟩ := h.triple_ne j1 jn
  rw [cfdQ_eq, lagrangeD_line n12 n13 n23 e1 e3]
  simp only [jlt]

end elbow

end Knee
