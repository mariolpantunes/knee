import Knee.Model.Isodata
import Knee.Lemmas.Detectors
import Knee.Lemmas.AbsMaxMin
import Mathlib.Tactic.Ring
import Mathlib.Tactic.Linarith
import Mathlib.Algebra.BigOperators.Group.List.Defs
/-!
The gradient array `elbowG` of an exact two-slope elbow, the ISODATA threshold on it (`isodata_up`) and
one DFDT round on a criterion array of that shape (`dfdtInner_elbowG`).  ISODATA does not depend on the
order of the samples, and the gradient array read backwards is that of the elbow with the slopes
exchanged, so the threshold is worked out for ascending slopes only.
-/
namespace Knee

/-- gradient array of an exact two-slope elbow: `a` copies of the first slope, the corner value,
`b` copies of the second slope; the corner sits at index `a` -/
def elbowG (a : Nat) (gmid : Rat) (b : Nat) (s1 s2 : Rat) : List Rat :=
  List.replicate a s1 ++ [gmid] ++ List.replicate b s2

theorem elbowG_length (a : Nat) (gmid : Rat) (b : Nat) (s1 s2 : Rat) :
    (elbowG a gmid b s1 s2).length = a + 1 + b := by
  rw [elbowG, List.length_append, List.length_append, List.length_replicate, List.length_replicate,
    List.length_singleton]

theorem elbowG_getD {a b : Nat} {g s1 s2 : Rat} {i : Nat} (hi : i < a + 1 + b) :
    (elbowG a g b s1 s2)[i]?.getD 0 = if i < a then s1 else if i = a then g else s2 := by
  unfold elbowG
  rcases Nat.lt_trichotomy i a with h | rfl | h
  · rw [List.append_assoc, List.getElem?_append_left (by rwa [List.length_replicate]),
      List.getElem?_replicate, if_pos h, if_pos h]
    rfl
  · rw [List.append_assoc, List.getElem?_append_right (by rw [List.length_replicate]),
      List.length_replicate, Nat.sub_self, if_neg (Nat.lt_irrefl _), if_pos rfl]
    rfl
  · have hlen : (List.replicate a s1 ++ [g]).length = a + 1 := by
      rw [List.length_append, List.length_replicate, List.length_singleton]
    rw [List.getElem?_append_right (by rw [hlen]; exact h), List.getElem?_replicate,
      if_pos (by rw [hlen]; omega), if_neg (Nat.lt_asymm h), if_neg (Nat.ne_of_gt h)]
    rfl

theorem elbowG_eq_map (a : Nat) (g : Rat) (b : Nat) (s1 s2 : Rat) :
    elbowG a g b s1 s2 =
      (List.range (a + 1 + b)).map fun i => if i < a then s1 else if i = a then g else s2 := by
  apply List.ext_getElem (by rw [elbowG_length]; simp)
  intro i h1 h2
  have := elbowG_getD (g := g) (s1 := s1) (s2 := s2) (by rwa [elbowG_length] at h1)
  rw [List.getElem?_eq_getElem h1, Option.getD_some] at this
  rw [this, List.getElem_map, List.getElem_range]

theorem elbowG_reverse (a : Nat) (g : Rat) (b : Nat) (s1 s2 : Rat) :
    (elbowG a g b s1 s2).reverse = elbowG b g a s2 s1 := by
  simp [elbowG]

theorem elbowG_map (f : Rat → Rat) (a : Nat) (g : Rat) (b : Nat) (s1 s2 : Rat) :
    (elbowG a g b s1 s2).map f = elbowG a (f g) b (f s1) (f s2) := by
  simp [elbowG]

theorem elbowG_drop {a b c : Nat} {g s1 s2 : Rat} (hc : c ≤ a) :
    (elbowG a g b s1 s2).drop c = elbowG (a - c) g b s1 s2 := by
  rw [elbowG, elbowG, List.append_assoc, List.drop_append_of_le_length (by simpa using hc),
    List.drop_replicate, List.append_assoc]

/-- ISODATA's two classes `array <= t`, `array > t` at a threshold between ascending slopes -/
theorem elbowG_filter_le {a b : Nat} {g s1 s2 t : Rat} (h1 : s1 ≤ t) (h2 : t < s2) :
    (elbowG a g b s1 s2).filter (fun v => decide (v ≤ t)) =
      List.replicate a s1 ++ if g ≤ t then [g] else [] := by
  simp [elbowG, List.filter_cons, h1, not_le.mpr h2]

theorem elbowG_filter_lt {a b : Nat} {g s1 s2 t : Rat} (h1 : s1 ≤ t) (h2 : t < s2) :
    (elbowG a g b s1 s2).filter (fun v => decide (t < v)) =
      if t < g then g :: List.replicate b s2 else List.replicate b s2 := by
  simp [elbowG, List.filter_cons, not_lt.mpr h1, h2]

theorem meanL_replicate (n : Nat) (x : Rat) (hn : 1 ≤ n) : meanL (List.replicate n x) = x := by
  have : (n : Rat) ≠ 0 := by exact_mod_cast (by omega : n ≠ 0)
  rw [meanL, List.sum_replicate, List.length_replicate, nsmul_eq_mul, mul_div_cancel_left₀ _ this]

theorem meanL_replicate_snoc (n : Nat) (x g : Rat) :
    meanL (List.replicate n x ++ [g]) = ((n : Rat) * x + g) / ((n : Rat) + 1) := by
  simp [meanL, List.sum_append, List.sum_replicate]

theorem meanL_cons_replicate (n : Nat) (x g : Rat) :
    meanL (g :: List.replicate n x) = ((n : Rat) * x + g) / ((n : Rat) + 1) := by
  simp [meanL, List.sum_replicate, add_comm]

theorem meanL_elbowG (a : Nat) (g : Rat) (b : Nat) (s1 s2 : Rat) :
    meanL (elbowG a g b s1 s2) =
      ((a : Rat) * s1 + g + (b : Rat) * s2) / ((a : Rat) + 1 + (b : Rat)) := by
  simp [meanL, elbowG, List.sum_append, List.sum_replicate]
  ring

theorem meanL_reverse (l : List Rat) : meanL l.reverse = meanL l := by
  rw [meanL, meanL, List.sum_reverse, List.length_reverse]

theorem isoStep_reverse (l : List Rat) (t : Rat) : isoStep l.reverse t = isoStep l t := by
  simp only [isoStep, List.filter_reverse, meanL_reverse, List.isEmpty_reverse]

theorem isoLoop_reverse (l : List Rat) (eps : Rat) (f : Nat) (t : Rat) :
    isoLoop l.reverse eps f t = isoLoop l eps f t := by
  induction f generalizing t with
  | zero => rfl
  | succ f ih => simp only [isoLoop, isoStep_reverse, ih]

theorem isodataQ_reverse (l : List Rat) : isodataQ l.reverse = isodataQ l := by
  rw [isodataQ, isodataQ, meanL_reverse, isoLoop_reverse]

theorem isoStep_swap (a b : Nat) (g s1 s2 t : Rat) :
    isoStep (elbowG a g b s1 s2) t = isoStep (elbowG b g a s2 s1) t := by
  rw [← elbowG_reverse, isoStep_reverse]

theorem isodataQ_swap (a b : Nat) (g s1 s2 : Rat) :
    isodataQ (elbowG a g b s1 s2) = isodataQ (elbowG b g a s2 s1) := by
  rw [← elbowG_reverse, isodataQ_reverse]

/-- the update when the corner value falls in the low class (`p` copies of `lo`) -/
def lowMid (p : Nat) (lo g hi : Rat) : Rat := (((p : Rat) * lo + g) / ((p : Rat) + 1) + hi) / 2

/-- the update when the corner value falls in the high class (`q` copies of `hi`) -/
def highMid (q : Nat) (lo g hi : Rat) : Rat := (lo + ((q : Rat) * hi + g) / ((q : Rat) + 1)) / 2

/-- `t` lies strictly between the two midpoints `(lo + g) / 2` and `(g + hi) / 2`: the band in which
the corner value is the closest of the three values -/
def BetweenMids (lo g hi t : Rat) : Prop := lo + g < 2 * t ∧ 2 * t < g + hi

theorem wavg_between {a b u v : Rat} (hab : a < b) (hu : 0 < u) (hv : 0 < v) :
    a < (a * u + b * v) / (u + v) ∧ (a * u + b * v) / (u + v) < b := by
  have huv : 0 < u + v := add_pos hu hv
  rw [lt_div_iff₀ huv, div_lt_iff₀ huv, mul_add, mul_add]
  exact ⟨add_lt_add_right (mul_lt_mul_of_pos_right hab hv) _,
    add_lt_add_left (mul_lt_mul_of_pos_right hab hu) _⟩

theorem betweenMids_half {lo g hi u v : Rat} (h1 : lo + g < u + v) (h2 : u + v < g + hi) :
    BetweenMids lo g hi ((u + v) / 2) := by
  rw [BetweenMids, two_mul, add_halves]
  exact ⟨h1, h2⟩

theorem lowMid_betweenMids (p : Nat) (lo g hi : Rat) (hp : 1 ≤ p) (h1 : lo < g) (h2 : g < hi) :
    BetweenMids lo g hi (lowMid p lo g hi) := by
  obtain ⟨a1, a2⟩ := wavg_between h1 (Nat.cast_pos.mpr hp) one_pos
  rw [mul_one, mul_comm] at a1 a2
  exact betweenMids_half (add_lt_add a1 h2) (add_lt_add_left a2 hi)

theorem highMid_betweenMids (q : Nat) (lo g hi : Rat) (hq : 1 ≤ q) (h1 : lo < g) (h2 : g < hi) :
    BetweenMids lo g hi (highMid q lo g hi) := by
  obtain ⟨a1, a2⟩ := wavg_between h2 one_pos (Nat.cast_pos.mpr hq)
  rw [mul_one, mul_comm, add_comm, add_comm 1] at a1 a2
  exact betweenMids_half (add_lt_add_right a1 lo) (add_lt_add h1 a2)

theorem BetweenMids.between {lo g hi t : Rat} (h1 : lo < g) (h2 : g < hi)
    (h : BetweenMids lo g hi t) : lo < t ∧ t < hi := by
  unfold BetweenMids at h
  constructor <;> linarith [h.1, h.2]

theorem BetweenMids.corner_closer {lo g hi t : Rat} (h1 : lo < g) (h2 : g < hi)
    (h : BetweenMids lo g hi t) :
    rabs (g - t) < rabs (lo - t) ∧ rabs (g - t) < rabs (hi - t) := by
  obtain ⟨hlo, hhi⟩ := h.between h1 h2
  rw [rabs_sub_of_le hlo.le, rabs_of_nonneg (sub_nonneg.mpr hhi.le), rabs_eq_abs, abs_sub_lt_iff,
    abs_sub_lt_iff]
  exact ⟨⟨by linarith [h.1], sub_lt_sub_left h1 t⟩, sub_lt_sub_right h2 t, by linarith [h.2]⟩

/-- the initial threshold (the mean) is strictly between the two slopes -/
theorem mean_between (a b : Nat) (lo g hi : Rat) (h1 : lo < g) (h2 : g < hi) :
    lo < ((a : Rat) * lo + g + (b : Rat) * hi) / ((a : Rat) + 1 + (b : Rat)) ∧
      ((a : Rat) * lo + g + (b : Rat) * hi) / ((a : Rat) + 1 + (b : Rat)) < hi := by
  have ha : (0 : Rat) ≤ a := Nat.cast_nonneg a
  have hb : (0 : Rat) ≤ b := Nat.cast_nonneg b
  have hpos : (0 : Rat) < (a : Rat) + 1 + (b : Rat) := by linarith
  have p1 := mul_le_mul_of_nonneg_left (h1.trans h2).le ha
  have p2 := mul_le_mul_of_nonneg_left (h1.trans h2).le hb
  rw [lt_div_iff₀ hpos, div_lt_iff₀ hpos]
  constructor <;> linarith

theorem isoStep_up (a b : Nat) (g s1 s2 t : Rat) (ha : 1 ≤ a) (hb : 1 ≤ b)
    (ht : s1 < t ∧ t < s2) :
    isoStep (elbowG a g b s1 s2) t =
      some (if g ≤ t then lowMid a s1 g s2 else highMid b s1 g s2) := by
  have ha0 : a ≠ 0 := by omega
  have hb0 : b ≠ 0 := by omega
  simp only [isoStep, elbowG_filter_le ht.1.le ht.2, elbowG_filter_lt ht.1.le ht.2]
  by_cases hgt : g ≤ t
  · rw [if_pos hgt, if_neg (not_lt.mpr hgt), if_pos hgt, if_neg (by simp [hb0]),
      meanL_replicate_snoc, meanL_replicate b s2 hb]
    rfl
  · rw [if_neg hgt, if_pos (not_le.mp hgt), if_neg hgt, List.append_nil, if_neg (by simp [ha0]),
      meanL_cons_replicate, meanL_replicate a s1 ha]
    rfl

/-- `f + 1`: the loop must run once; the start value is `Good` but need not be a `Res` -/
theorem isoLoop_inv (a : List Rat) (eps : Rat) (Good Res : Rat → Prop)
    (hstep : ∀ t, Good t → ∃ n, isoStep a t = some n ∧ Res n)
    (hRG : ∀ t, Res t → Good t) :
    ∀ (f : Nat) (t : Rat), Good t → Res (isoLoop a eps (f + 1) t) := by
  intro f
  induction f with
  | zero =>
    intro t ht
    obtain ⟨n, hn, hr⟩ := hstep t ht
    rw [isoLoop, hn]
    simp only [isoLoop, ite_self]
    exact hr
  | succ f ih =>
    intro t ht
    obtain ⟨n, hn, hr⟩ := hstep t ht
    rw [isoLoop, hn]
    simp only
    split
    · exact hr
    · exact ih n (hRG n hr)

/-- ascending slopes, any `eps`, at least one iteration: what the loop returns from a threshold
between the slopes is an update from such a threshold, and lies between the two midpoints -/
theorem isoLoop_up (a b : Nat) (g s1 s2 eps : Rat) (ha : 1 ≤ a) (hb : 1 ≤ b) (h1 : s1 < g)
    (h2 : g < s2) (f : Nat) (t : Rat) (ht : s1 < t ∧ t < s2) :
    BetweenMids s1 g s2 (isoLoop (elbowG a g b s1 s2) eps (f + 1) t) ∧
      ∃ t', (s1 < t' ∧ t' < s2) ∧
        isoStep (elbowG a g b s1 s2) t' = some (isoLoop (elbowG a g b s1 s2) eps (f + 1) t) := by
  apply isoLoop_inv (elbowG a g b s1 s2) eps (fun t => s1 < t ∧ t < s2)
    (fun T => BetweenMids s1 g s2 T ∧ ∃ t', (s1 < t' ∧ t' < s2) ∧ isoStep (elbowG a g b s1 s2) t' = some T)
  · intro t ht
    refine ⟨_, isoStep_up a b g s1 s2 t ha hb ht, ?_, t, ht,
      isoStep_up a b g s1 s2 t ha hb ht⟩
    split
    · exact lowMid_betweenMids a s1 g s2 ha h1 h2
    · exact highMid_betweenMids b s1 g s2 hb h1 h2
  · exact fun T hr => BetweenMids.between h1 h2 hr.1
  · exact ht

/-- `isodata_between` for ascending slopes -/
theorem isodata_up (a b : Nat) (g s1 s2 : Rat) (ha : 1 ≤ a) (hb : 1 ≤ b) (h1 : s1 < g)
    (h2 : g < s2) :
    (∃ t, (s1 < t ∧ t < s2) ∧
        isoStep (elbowG a g b s1 s2) t = some (isodataQ (elbowG a g b s1 s2))) ∧
      (s1 < isodataQ (elbowG a g b s1 s2) ∧ isodataQ (elbowG a g b s1 s2) < s2) ∧
      rabs (g - isodataQ (elbowG a g b s1 s2)) < rabs (s1 - isodataQ (elbowG a g b s1 s2)) ∧
      rabs (g - isodataQ (elbowG a g b s1 s2)) < rabs (s2 - isodataQ (elbowG a g b s1 s2)) := by
  have hres : BetweenMids s1 g s2 (isodataQ (elbowG a g b s1 s2)) ∧ ∃ t, (s1 < t ∧ t < s2) ∧
      isoStep (elbowG a g b s1 s2) t = some (isodataQ (elbowG a g b s1 s2)) :=
    -- `isodataQ` runs `max_iter = 100 = 99 + 1` iterations from the mean
    isoLoop_up a b g s1 s2 (1 / 1000000) ha hb h1 h2 99 _
      (by rw [meanL_elbowG]; exact mean_between a b s1 g s2 h1 h2)
  exact ⟨hres.2, BetweenMids.between h1 h2 hres.1, BetweenMids.corner_closer h1 h2 hres.1⟩

/-- here the array holds criterion values, not slopes: `M`, `A`, `B` are `|g − T|`, `|s1 − T|`,
`|s2 − T|` (`elbowG_map`) -/
theorem dfdtInner_elbowG (a b : Nat) (M A B : Rat) (ha : 1 ≤ a) (hb : 1 ≤ b) (h1 : M < A)
    (h2 : M < B) : dfdtInner (elbowG a M b A B) = a := by
  have hlen := elbowG_length a M b A B
  apply dfdtInner_eq_of_unique ha (by omega)
  intro j hj1 hj2 hne
  rw [elbowG_getD (by omega : a < a + 1 + b), elbowG_getD (by omega : j < a + 1 + b),
    if_neg (Nat.lt_irrefl a), if_pos rfl, if_neg hne]
  split
  · exact h1
  · exact h2

end Knee
