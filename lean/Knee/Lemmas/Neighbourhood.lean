import Knee.Model.Neighbourhood
import Mathlib.Data.Nat.Log
/-! Lemmas on the loops of `Knee/Model/Neighbourhood.lean` (the R²-neighbourhood searches of `evaluation.py`) for `Props/X01.lean`. -/
namespace Knee

section
variable {α : Type} [LT α] [DecidableLT α]

/-- `abs(i - right) > 1` is spelled out, so that `omega` sees it -/
theorem nbBinLoop_succ (r2 : Nat → α) (t : α) (b f i r : Nat) :
    nbBinLoop r2 t b (f + 1) i r =
      if i + 1 < r ∨ r + 1 < i then
        (if r2 i < t then nbBinLoop r2 t b f ((i + r) / 2) r
         else nbBinLoop r2 t b f ((b + i) / 2) i).map fun s => { s with trace := i :: s.trace }
      else some ⟨i, r, []⟩ := by
  rw [nbBinLoop]; simp only [nbFar, Bool.or_eq_true, decide_eq_true_eq]

/-- Each branch may use the outcome of the test that selects it, so that "`right` only moves to an index that failed the test"
is an invariant.  In the last conjunct `r'` is the value of `right` when `j` was evaluated. -/
theorem nbBinLoop_inv (r2 : Nat → α) (t : α) (b : Nat) (Inv : Nat → Nat → Prop)
    (h1 : ∀ i r, Inv i r → (i + 1 < r ∨ r + 1 < i) → r2 i < t → Inv ((i + r) / 2) r)
    (h2 : ∀ i r, Inv i r → (i + 1 < r ∨ r + 1 < i) → ¬ r2 i < t → Inv ((b + i) / 2) i) :
    ∀ fuel i r s, Inv i r → nbBinLoop r2 t b fuel i r = some s →
      Inv s.i s.right ∧ (s.i ≤ s.right + 1 ∧ s.right ≤ s.i + 1) ∧
        ∀ j ∈ s.trace, ∃ r', Inv j r' ∧ (j + 1 < r' ∨ r' + 1 < j) := by
  intro fuel
  induction fuel with
  | zero => intro i r s _ h; exact nomatch h
  | succ f ih =>
    intro i r s hinv hs
    rw [nbBinLoop_succ] at hs
    split at hs
    next hfar =>
      obtain ⟨s', hs', rfl⟩ := Option.map_eq_some_iff.1 hs
      have ⟨p1, p2, p3⟩ : Inv s'.i s'.right ∧ (s'.i ≤ s'.right + 1 ∧ s'.right ≤ s'.i + 1) ∧
          ∀ j ∈ s'.trace, ∃ r', Inv j r' ∧ (j + 1 < r' ∨ r' + 1 < j) := by
        split at hs'
        next hlt => exact ih _ _ _ (h1 i r hinv hfar hlt) hs'
        next hlt => exact ih _ _ _ (h2 i r hinv hfar hlt) hs'
      exact ⟨p1, p2, List.forall_mem_cons.2 ⟨⟨r, hinv, hfar⟩, p3⟩⟩
    next hfar =>
      cases hs
      exact ⟨hinv, ⟨Nat.not_lt.1 fun h => hfar (Or.inr h), Nat.not_lt.1 fun h => hfar (Or.inl h)⟩, fun _ h => nomatch h⟩

theorem nbBinLoop_inv_blind (r2 : Nat → α) (t : α) (b : Nat) (Inv : Nat → Nat → Prop)
    (hinv : ∀ i r, Inv i r → (i + 1 < r ∨ r + 1 < i) → Inv ((i + r) / 2) r ∧ Inv ((b + i) / 2) i) :
    ∀ fuel i r s, Inv i r → nbBinLoop r2 t b fuel i r = some s →
      Inv s.i s.right ∧ (s.i ≤ s.right + 1 ∧ s.right ≤ s.i + 1) ∧
        ∀ j ∈ s.trace, ∃ r', Inv j r' ∧ (j + 1 < r' ∨ r' + 1 < j) :=
  nbBinLoop_inv r2 t b Inv (fun i r hi hf _ => (hinv i r hi hf).1) (fun i r hi hf _ => (hinv i r hi hf).2)

/-- `hinv` and `hμ` are not offered the outcome of the test: no measure in use needs it. -/
theorem nbBinLoop_measure (r2 : Nat → α) (t : α) (b : Nat) (Inv : Nat → Nat → Prop) (μ : Nat → Nat → Nat)
    (hinv : ∀ i r, Inv i r → (i + 1 < r ∨ r + 1 < i) → Inv ((i + r) / 2) r ∧ Inv ((b + i) / 2) i)
    (hμ : ∀ i r, Inv i r → (i + 1 < r ∨ r + 1 < i) → μ ((i + r) / 2) r < μ i r ∧ μ ((b + i) / 2) i < μ i r) :
    ∀ fuel i r, Inv i r →
      (μ i r < fuel → (nbBinLoop r2 t b fuel i r).isSome) ∧
      ∀ s, nbBinLoop r2 t b fuel i r = some s → s.trace.length ≤ μ i r := by
  intro fuel
  induction fuel with
  | zero => intro i r _; exact ⟨fun h => by omega, fun s h => by simp [nbBinLoop] at h⟩
  | succ f ih =>
    intro i r hi
    rw [nbBinLoop_succ]
    split
    next hfar =>
      have step : ∀ i' r', Inv i' r' → μ i' r' < μ i r →
          (μ i r < f + 1 → (nbBinLoop r2 t b f i' r').isSome) ∧
          ∀ s, (nbBinLoop r2 t b f i' r').map (fun s => { s with trace := i :: s.trace }) = some s →
            s.trace.length ≤ μ i r := by
        intro i' r' hi' hμ'
        refine ⟨fun h => (ih _ _ hi').1 (by omega), fun s hs => ?_⟩
        obtain ⟨s', hs', rfl⟩ := Option.map_eq_some_iff.1 hs
        exact Nat.le_trans (Nat.succ_le_succ ((ih _ _ hi').2 s' hs')) hμ'
      rw [Option.isSome_map]
      split
      · exact step _ _ (hinv i r hi hfar).1 (hμ i r hi hfar).1
      · exact step _ _ (hinv i r hi hfar).2 (hμ i r hi hfar).2
    next hfar => exact ⟨fun _ => rfl, fun s hs => by cases hs; simp⟩

/-! #### invariants and measures

`p = |right - i|` is the gap, `q = |right - b|` the span.  The first branch keeps `q` and roughly halves `p`; the second replaces
`q` by `q - p ≤ q - 2` and `p` by something `≤ q - p`.  For `b ≤ a` the invariant is `b ≤ i ≤ right ≤ a`; for `a < b` its mirror image
`a ≤ right ≤ i ≤ b`, which also keeps `a < i`.  The suffixes `_le` / `_gt` name the case (`b ≤ a` / `a < b`), not the shape of the
conclusion; the logarithmic measure is set up for `b ≤ a` only. -/

/-- the second branch under the measure `q² + p`: `u` is the new span, `w` the old one, `p'` the new gap -/
theorem quad_drop {p' u w p : Nat} (h1 : p' ≤ u) (h2 : u + 2 ≤ w) : u * u + p' < w * w + p := by
  have h := Nat.mul_self_le_mul_self h2
  simp only [Nat.add_mul, Nat.mul_add] at h
  omega

/-- the second branch under the measure `⌊q/2⌋·L + ⌈log₂ p⌉`, where `L` bounds every `⌈log₂ p⌉` (same letters) -/
theorem log_drop {L p' u w p : Nat} (h1 : Nat.clog 2 p' ≤ L) (h2 : u + 2 ≤ w) (hp : 2 ≤ p) :
    u / 2 * L + Nat.clog 2 p' < w / 2 * L + Nat.clog 2 p := by
  have hpos : 1 ≤ Nat.clog 2 p := Nat.clog_pos Nat.one_lt_two hp
  have := Nat.mul_le_mul_right L (show u / 2 + 1 ≤ w / 2 from Nat.add_div_right u Nat.two_pos ▸ Nat.div_le_div_right h2)
  rw [Nat.add_mul] at this
  omega

/-- the first branch under the same measure: the new gap `x` is `⌈p/2⌉`, whose `⌈log₂⌉` is one less -/
theorem log_half {p x : Nat} (hp : 2 ≤ p) (hx : 2 * x ≤ p + 1) : Nat.clog 2 x < Nat.clog 2 p := by
  rw [Nat.clog_of_two_le Nat.one_lt_two hp, Nat.lt_succ_iff]
  exact Nat.clog_mono_right 2 ((Nat.le_div_iff_mul_le Nat.two_pos).2 (Nat.mul_comm 2 x ▸ hx))

/-- the loop condition is not needed here; the argument is there to fit the rules -/
theorem nbBin_inv_le (a b i r : Nat) (h : b ≤ i ∧ i ≤ r ∧ r ≤ a) (_ : i + 1 < r ∨ r + 1 < i) :
    (b ≤ (i + r) / 2 ∧ (i + r) / 2 ≤ r ∧ r ≤ a) ∧ (b ≤ (b + i) / 2 ∧ (b + i) / 2 ≤ i ∧ i ≤ a) := by
  omega

theorem nbBin_inv_gt (a b i r : Nat) (h : a ≤ r ∧ r ≤ i ∧ i ≤ b ∧ a < i) (hfar : i + 1 < r ∨ r + 1 < i) :
    (a ≤ r ∧ r ≤ (i + r) / 2 ∧ (i + r) / 2 ≤ b ∧ a < (i + r) / 2) ∧
      (a ≤ i ∧ i ≤ (b + i) / 2 ∧ (b + i) / 2 ≤ b ∧ a < (b + i) / 2) := by
  omega

theorem nbBin_quad_le (a b i r : Nat) (h : b ≤ i ∧ i ≤ r ∧ r ≤ a) (hfar : i + 1 < r ∨ r + 1 < i) :
    (r - b) * (r - b) + (r - (i + r) / 2) < (r - b) * (r - b) + (r - i) ∧
      (i - b) * (i - b) + (i - (b + i) / 2) < (r - b) * (r - b) + (r - i) := by
  have hm : i < (i + r) / 2 ∧ b ≤ (b + i) / 2 ∧ i - b + 2 ≤ r - b ∧ i < r := by omega
  exact ⟨Nat.add_lt_add_left (Nat.sub_lt_sub_left hm.2.2.2 hm.1) _,
    quad_drop (u := i - b) (w := r - b) (Nat.sub_le_sub_left hm.2.1 _) hm.2.2.1⟩

theorem nbBin_quad_gt (a b i r : Nat) (h : a ≤ r ∧ r ≤ i ∧ i ≤ b ∧ a < i) (hfar : i + 1 < r ∨ r + 1 < i) :
    (b - r) * (b - r) + ((i + r) / 2 - r) < (b - r) * (b - r) + (i - r) ∧
      (b - i) * (b - i) + ((b + i) / 2 - i) < (b - r) * (b - r) + (i - r) := by
  have hm : r ≤ (i + r) / 2 ∧ (i + r) / 2 < i ∧ (b + i) / 2 ≤ b ∧ b - i + 2 ≤ b - r := by omega
  exact ⟨Nat.add_lt_add_left (Nat.sub_lt_sub_right hm.1 hm.2.1) _,
    quad_drop (u := b - i) (w := b - r) (Nat.sub_le_sub_right hm.2.2.1 _) hm.2.2.2⟩

theorem nbBin_log_le (a b i r : Nat) (h : b ≤ i ∧ i ≤ r ∧ r ≤ a) (hfar : i + 1 < r ∨ r + 1 < i) :
    (r - b) / 2 * Nat.clog 2 (a - b) + Nat.clog 2 (r - (i + r) / 2) <
        (r - b) / 2 * Nat.clog 2 (a - b) + Nat.clog 2 (r - i) ∧
      (i - b) / 2 * Nat.clog 2 (a - b) + Nat.clog 2 (i - (b + i) / 2) <
        (r - b) / 2 * Nat.clog 2 (a - b) + Nat.clog 2 (r - i) := by
  have hm : 2 ≤ r - i ∧ 2 * (r - (i + r) / 2) ≤ r - i + 1 ∧ b ≤ (b + i) / 2 ∧ i - b + 2 ≤ r - b := by omega
  exact ⟨Nat.add_lt_add_left (log_half hm.1 hm.2.1) _,
    log_drop (u := i - b) (w := r - b)
      (Nat.clog_mono_right 2 (Nat.le_trans (Nat.sub_le_sub_left hm.2.2.1 i) (Nat.sub_le_sub_right (Nat.le_trans h.2.1 h.2.2) b)))
      hm.2.2.2 hm.1⟩

/-- With `d = |a - b|` the measure `q² + p` starts at `d² + d`, one below the fuel of the wrapper. -/
theorem nbBinary_run (r2 : Nat → α) (t : α) (a b : Nat) :
    ∃ s, nbBinary r2 t a b = some s ∧
      s.trace.length ≤ (a - b + (b - a)) * (a - b + (b - a)) + (a - b + (b - a)) := by
  unfold nbBinary nbBinFuel
  rcases Nat.lt_or_ge a b with h | h
  · rw [Nat.sub_eq_zero_of_le (Nat.le_of_lt h), Nat.zero_add]
    have m := nbBinLoop_measure r2 t b _ (fun i r => (b - r) * (b - r) + (i - r)) (nbBin_inv_gt a b) (nbBin_quad_gt a b)
      ((b - a) * (b - a) + (b - a) + 1) b a ⟨Nat.le_refl _, Nat.le_of_lt h, Nat.le_refl _, h⟩
    exact (Option.isSome_iff_exists.1 (m.1 (Nat.lt_succ_self _))).imp fun s hs => ⟨hs, m.2 s hs⟩
  · rw [Nat.sub_eq_zero_of_le h, Nat.add_zero]
    have m := nbBinLoop_measure r2 t b _ (fun i r => (r - b) * (r - b) + (r - i)) (nbBin_inv_le a b) (nbBin_quad_le a b)
      ((a - b) * (a - b) + (a - b) + 1) b a ⟨Nat.le_refl _, h, Nat.le_refl _⟩
    exact (Option.isSome_iff_exists.1 (m.1 (Nat.lt_succ_self _))).imp fun s hs => ⟨hs, m.2 s hs⟩

/-! #### the linear walks

Both are specified by the index at which they STOP; `NbFound` is what `get_neighbourhood` then guarantees for the index it RETURNS. -/

/-- `R` is the value in hand: what the walk starts with at `i`, the oracle below `i`.  `k` is the first index, going down, at which
the loop condition fails; the rest of the final state is a function of `k`. -/
theorem nbWalk_spec (r2 : Nat → α) (t : α) (b : Nat) (R : Nat → α) :
    ∀ (i : Nat) (prev : Option (Nat × α)), (∀ j, j < i → R j = r2 j) →
      ∃ k, k ≤ i ∧ (∀ j, k < j → j ≤ i → t < R j ∧ b < j) ∧ ¬ (t < R k ∧ b < k) ∧
        nbWalk r2 t b i (R i) prev =
          ⟨k, R k, if k = i then prev else some (k + 1, R (k + 1)), (List.range' k (i - k)).reverse⟩ := by
  intro i
  induction i with
  | zero => exact fun prev _ => ⟨0, Nat.le_refl _, fun j _ _ => by omega, fun h => by omega, rfl⟩
  | succ i ih =>
    intro prev hR
    rw [nbWalk]
    split
    next hc =>
      obtain ⟨k, h1, h2, h3, h4⟩ := ih (some (i + 1, R (i + 1))) fun j hj => hR j (Nat.lt_succ_of_lt hj)
      refine ⟨k, Nat.le_succ_of_le h1, fun j hj hji => ?_, h3, ?_⟩
      · rcases Nat.lt_or_ge i j with h | h
        · rwa [Nat.le_antisymm hji h]
        · exact h2 j hj h
      · -- `previous_res` of the inner walk: for `k = i` the two arms coincide
        rw [← hR i (Nat.lt_succ_self i), h4, ite_eq_right_iff.2 fun h => by rw [h],
          if_neg (Nat.ne_of_lt (Nat.lt_succ_of_le h1)), Nat.succ_sub h1, List.range'_1_concat, List.reverse_append,
          Nat.add_sub_cancel' h1]
        rfl
    next hc => exact ⟨i + 1, Nat.le_refl _, fun j _ _ => by omega, hc, by simp⟩

/-- What `get_neighbourhood(x, y, a, b, t)` guarantees when it returns `(k, v)` with the evaluations `tr`; `R = nbR r2 one a` is the
value the code has in hand at an index (`1.0` at `a-1`, the oracle below). -/
structure NbFound (r2 : Nat → α) (one t : α) (a b k : Nat) (v : α) (tr : List Nat) : Prop where
  lt_one : t < one
  lt : k < a
  /-- `k ≥ b`, unless `b > a-1`: then nothing is evaluated and `k = a-1` -/
  ge : b ≤ k ∨ a ≤ k + 1
  val : v = nbR r2 one a k
  run : ∀ j, k ≤ j → j + 1 ≤ a → t < nbR r2 one a j
  /-- `b < k` says that a value, not the limit `b`, stopped the walk: then `k` is the least index `≥ b` with `run` -/
  stop : b < k → ¬ t < nbR r2 one a (k - 1)
  /-- evaluated: `a-2, a-3, …` down to `k`, and `k-1` as well when it is the value there that stopped the walk (`b < k`) -/
  trace : tr = (List.range' (if b < k then k - 1 else k) (a - 1 - if b < k then k - 1 else k)).reverse

/-- Stated as a `match` on the result so that all three outcomes come from one run of `nbWalk_spec`. -/
theorem nbLinear_spec (r2 : Nat → α) (one t : α) (a b : Nat) :
    match nbLinear r2 one t a b with
    | .negIndex => a = 0
    | .unbound tr => 1 ≤ a ∧ ¬ t < one ∧ tr = []
    | .found k v tr => NbFound r2 one t a b k v tr := by
  cases a with
  | zero => rfl
  | succ a' =>
    have hone : nbR r2 one (a' + 1) a' = one := if_pos rfl
    -- `m` is the index at which the walk stops; the returned index is `m`, or `m + 1` when a bad value at `m` stopped it
    obtain ⟨m, h1, h2, h3, h4⟩ := nbWalk_spec r2 t b (nbR r2 one (a' + 1)) a' none
      fun j hj => if_neg (Nat.ne_of_lt (Nat.succ_lt_succ hj))
    rw [hone] at h4
    -- the walk moved, or stands on a good value: either way `1.0` passed the test
    have ht : m < a' ∨ t < nbR r2 one (a' + 1) m → t < one := by
      rintro (h | h)
      · exact hone ▸ (h2 a' h (Nat.le_refl _)).1
      · rcases Nat.lt_or_ge m a' with h' | h'
        · exact hone ▸ (h2 a' h' (Nat.le_refl _)).1
        · rwa [Nat.le_antisymm h1 h', hone] at h
    have hb : m < a' → b ≤ m := fun h => Nat.le_of_lt_succ (h2 (m + 1) (Nat.lt_succ_self m) h).2
    simp only [nbLinear, h4]
    by_cases hm : t < nbR r2 one (a' + 1) m
    · -- stopped by the limit `m ≤ b` with a good value in hand: returns `m`
      have hmb : ¬ b < m := fun h => h3 ⟨hm, h⟩
      rw [if_pos hm]
      refine ⟨ht (Or.inr hm), Nat.succ_le_succ h1, (Nat.lt_or_ge m a').imp hb Nat.succ_le_succ, rfl,
        fun j hj hja => ?_, fun h => absurd h hmb, ?_⟩
      · rcases Nat.eq_or_lt_of_le hj with rfl | hj
        · exact hm
        · exact (h2 j hj (Nat.le_of_succ_le_succ hja)).1
      · rw [if_neg hmb]; rfl
    · rw [if_neg hm]
      by_cases hma : m = a'
      · -- the loop never ran: `previous_res` unbound
        rw [if_pos hma]
        exact ⟨Nat.succ_pos _, fun h => hm (by rwa [hma, hone]), by rw [hma]; simp⟩
      · -- the loop ran and stopped on a bad value at `m`: returns `previous_res`, index `m + 1`
        rw [if_neg hma]
        have hlt : m < a' := Nat.lt_of_le_of_ne h1 hma
        have := hb hlt
        refine ⟨ht (Or.inl hlt), Nat.succ_le_succ hlt, Or.inl (Nat.le_succ_of_le this), rfl,
          fun j hj hja => (h2 j hj (Nat.le_of_succ_le_succ hja)).1, fun _ => hm, ?_⟩
        rw [if_pos (Nat.lt_succ_of_le this)]; rfl

theorem NbFound.of_eq {r2 : Nat → α} {one t : α} {a b k : Nat} {v : α} {tr : List Nat}
    (h : nbLinear r2 one t a b = .found k v tr) : NbFound r2 one t a b k v tr := by
  simpa only [h] using nbLinear_spec r2 one t a b

theorem nbLinear_unbound_spec {r2 : Nat → α} {one t : α} {a b : Nat} {tr : List Nat}
    (h : nbLinear r2 one t a b = .unbound tr) : 1 ≤ a ∧ ¬ t < one ∧ tr = [] := by
  simpa only [h] using nbLinear_spec r2 one t a b

theorem nbUp_spec (r2 : Nat → α) (t : α) :
    ∀ (g i : Nat), ∃ k, i ≤ k ∧ k ≤ i + g ∧ (∀ j, i ≤ j → j < k → r2 j < t) ∧ (¬ r2 k < t ∨ k = i + g) ∧
      nbUp r2 t g i = (k, List.range' i (k - i + 1)) := by
  intro g
  induction g with
  | zero => exact fun i => ⟨i, Nat.le_refl _, Nat.le_refl _, fun j _ _ => by omega, Or.inr rfl, by simp [nbUp]⟩
  | succ g ih =>
    intro i
    rw [nbUp]
    split
    next hlt =>
      obtain ⟨k, h1, h2, h3, h4, h5⟩ := ih (i + 1)
      have e : i + 1 + g = i + (g + 1) := Nat.add_right_comm i 1 g
      refine ⟨k, Nat.le_of_succ_le h1, e ▸ h2, fun j hj hjk => ?_, e ▸ h4, ?_⟩
      · rcases Nat.eq_or_lt_of_le hj with rfl | hj
        · exact hlt
        · exact h3 j hj hjk
      · rw [show k - i + 1 = (k - (i + 1) + 1) + 1 by omega, List.range'_succ, h5]
    next hlt => exact ⟨i, Nat.le_refl _, Nat.le_add_right _ _,
      fun j hj hji => absurd (Nat.lt_of_le_of_lt hj hji) (Nat.lt_irrefl _), Or.inl hlt, by simp⟩

/-- The limit of the walk is spelled `s.i + (a - s.i)`, which is `max s.i a`: it does not move when the binary result is `≥ a`. -/
theorem nbFast_eq {r2 : Nat → α} {t : α} {a b : Nat} {s : NbBin} (hs : nbBinary r2 t a b = some s) :
    ∃ k, s.i ≤ k ∧ k ≤ s.i + (a - s.i) ∧ (∀ j, s.i ≤ j → j < k → r2 j < t) ∧ (¬ r2 k < t ∨ k = s.i + (a - s.i)) ∧
      nbFast r2 t a b = some ⟨k, r2 k, s.trace, List.range' s.i (k - s.i + 1)⟩ := by
  obtain ⟨k, h1, h2, h3, h4, h5⟩ := nbUp_spec r2 t (a - s.i) s.i
  exact ⟨k, h1, h2, h3, h4, by simp only [nbFast, hs, Option.map_some, h5]⟩

end

end Knee
