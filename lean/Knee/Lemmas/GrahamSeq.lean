import Knee.Lemmas.Graham
import Knee.Lemmas.GetD
/-!
`graham_scan` as a chain scan: its scan over `p0 :: sorted` is `popLower` on the x-axis reflection of that sequence,
read by position (`popGraham_map`); `GrahamSeqD` is what the theorems on `grahamScan` start from (`D` as in the
`grahamScanD_*` theorems of C18H).
-/
namespace Knee

/-- The input points with their indices, as `graham_scan` keeps them (`ip` in the model).  The index stands for
`np.where(np.all(points == p, axis=1))[0][0]`, the first position of the point: the two agree when the points are
distinct. -/
def ip (pts : List P2) : List (P2 × Nat) := pts.zip (List.range pts.length)

theorem length_ip (pts : List P2) : (ip pts).length = pts.length := by simp [ip]

theorem map_snd_ip (pts : List P2) : (ip pts).map Prod.snd = List.range pts.length :=
  List.map_snd_zip (by simp)

theorem mem_ip {pts : List P2} {q : P2 × Nat} :
    q ∈ ip pts ↔ q.2 < pts.length ∧ pts[q.2]?.getD (0, 0) = q.1 := by
  rw [ip, List.range_eq_range', ← List.zipIdx_eq_zip_range', List.mem_zipIdx_iff_getElem?,
    List.getElem?_eq_some_iff]
  constructor
  · rintro ⟨h, e⟩
    exact ⟨h, by rw [List.getElem?_eq_getElem h, Option.getD_some, e]⟩
  · rintro ⟨h, e⟩
    exact ⟨h, by rwa [List.getElem?_eq_getElem h, Option.getD_some] at e⟩

theorem ip_inj {pts : List P2} {q r : P2 × Nat} (hq : q ∈ ip pts)
    (hr : r ∈ ip pts) (h : q.2 = r.2) : q = r := by
  have h1 := (mem_ip.1 hq).2
  have h2 := (mem_ip.1 hr).2
  rw [h] at h1
  exact Prod.ext (h1.symm.trans h2) h

theorem ip_nodup (pts : List P2) : (ip pts).Nodup := by
  have h : ((ip pts).map Prod.snd).Nodup := by
    rw [map_snd_ip]; exact List.nodup_range
  exact (List.pairwise_map.1 h).imp fun h e => h (by rw [e])

theorem ip_point_ne {pts : List P2} (hnd : pts.Nodup) {q r : P2 × Nat}
    (hq : q ∈ ip pts) (hr : r ∈ ip pts) (h : q ≠ r) :
    q.1 ≠ r.1 := by
  have hq' := mem_ip.1 hq
  have hr' := mem_ip.1 hr
  rw [← hq'.2, ← hr'.2]
  exact nodup_getD_ne hnd hq'.1 hr'.1 fun e => h (ip_inj hq hr e)

/-- the rest of the points (everything but the pivot), as the model computes it -/
theorem ip_perm_rest {pts : List P2} {p0 : P2 × Nat} (h0 : p0 ∈ ip pts) :
    (ip pts).Perm
      (p0 :: (ip pts).filter fun q => q.2 ≠ p0.2) := by
  have e : (ip pts).filter (fun q => q.2 ≠ p0.2) =
      (ip pts).erase p0 := by
    rw [(ip_nodup pts).erase_eq_filter]
    refine List.filter_congr fun q hq => ?_
    have : q.2 = p0.2 ↔ q = p0 := ⟨ip_inj hq h0, fun e => e ▸ rfl⟩
    simp only [ne_eq, this, bne, beq_eq_decide, decide_not]
  rw [e]
  exact List.perm_cons_erase h0

/-- `graham_scan` after the pivot and the sort: the scan over `p0 :: sorted`, read in input indices -/
def grahamCore : List (P2 × Nat) → List Nat
  | a :: b :: c :: more => ((more.foldl (fun st p => p :: popGraham p.1 st) [c, b, a]).reverse).map (·.2)
  | _ => []

/-- entry `k` of the scan sequence `p0 :: sorted` -/
def gAt (L : List (P2 × Nat)) (k : Nat) : P2 × Nat := L[k]?.getD ((0, 0), 0)

theorem gAt_of_lt {L : List (P2 × Nat)} {k : Nat} (hk : k < L.length) : gAt L k = L[k] := by
  simp [gAt, hk]

theorem gAt_mem {L : List (P2 × Nat)} {k : Nat} (hk : k < L.length) : gAt L k ∈ L := getD_mem' hk

/-- the scan sequence as a curve, reflected in the x-axis (clockwise becomes counter-clockwise) -/
def gPt (L : List (P2 × Nat)) : Nat → P2 := reflY (fun k => (gAt L k).1)

theorem gPt_cons_succ (p0 : P2 × Nat) (S : List (P2 × Nat)) (i : Nat) :
    gPt (p0 :: S) (i + 1) = flipY (gAt S i).1 := rfl

theorem popGraham_map (L : List (P2 × Nat)) (i : Nat) : ∀ st : List Nat,
    popGraham (gAt L i).1 (st.map (gAt L)) = (popLower (gPt L) i st).map (gAt L)
  | [] => rfl
  | [_] => rfl
  | b :: a :: rest => by
    have ih := popGraham_map L i (a :: rest)
    simp only [List.map_cons] at ih ⊢
    rw [popGraham, popLower, show ccw (gPt L a) (gPt L b) (gPt L i) = _ from ccw_reflY _ a b i]
    by_cases h : 0 ≤ ccw (gAt L a).1 (gAt L b).1 (gAt L i).1
    · rw [if_pos h, if_pos (neg_nonpos.2 h), ih]
    · rw [if_neg h, if_neg fun h' => h (neg_nonpos.1 h')]
      rfl

theorem grahamScan_eq_core (pts : List P2) : grahamScan pts =
    match lexMin (ip pts) with
    | none => []
    | some p0 => grahamCore (p0 :: sortAng p0.1 ((ip pts).filter fun q => q.2 ≠ p0.2)) := by
  unfold grahamScan ip
  dsimp only
  cases lexMin (pts.zip (List.range pts.length)) with
  | none => rfl
  | some p0 =>
    dsimp only
    generalize sortAng p0.1 _ = s
    rcases s with _ | ⟨_, _ | ⟨_, _⟩⟩ <;> rfl

/-- `popLower_invariant` for the stack of points: `grahamScan_nodup_bounded` has no hypothesis under which that stack is a
`map (gAt L)` of an index stack (`popGraham_map`) -/
theorem popGraham_invariant (p : P2) (P : List (P2 × Nat) → Prop)
    (step : ∀ b a rest, 0 ≤ ccw a.1 b.1 p → P (b :: a :: rest) → P (a :: rest)) :
    ∀ st, P st → P (popGraham p st)
  | [], h => by simpa [popGraham] using h
  | [_], h => by simpa [popGraham] using h
  | b :: a :: rest, h => by
    rw [popGraham]
    split
    · exact popGraham_invariant p P step (a :: rest) (step b a rest ‹_› h)
    · exact h

theorem popGraham_suffix (p : P2) (st : List (P2 × Nat)) : popGraham p st <:+ st :=
  popGraham_invariant p (· <:+ st) (fun _ _ _ _ h => (List.suffix_cons _ _).trans h) st (List.suffix_refl _)

/-- `pre`, the part read before, is generalised because every step appends the point it pushes to it -/
theorem graham_fold_sublist : ∀ (more st pre : List (P2 × Nat)), st.reverse.Sublist pre →
    (more.foldl (fun st p => p :: popGraham p.1 st) st).reverse.Sublist (pre ++ more)
  | [], st, pre, h => by rwa [List.append_nil]
  | p :: more, st, pre, h => by
    rw [List.foldl_cons]
    have := graham_fold_sublist more (p :: popGraham p.1 st) (pre ++ [p]) (by
      rw [List.reverse_cons]
      refine List.Sublist.append ?_ (List.Sublist.refl _)
      exact (List.reverse_prefix.2 (popGraham_suffix p.1 st)).sublist.trans h)
    rwa [List.append_assoc] at this

theorem grahamCore_sublist : ∀ L : List (P2 × Nat), (grahamCore L).Sublist (L.map (·.2))
  | a :: b :: c :: more => by
    exact (graham_fold_sublist more [c, b, a] [a, b, c] (List.Sublist.refl _)).map (·.2)
  | [] | [_] | [_, _] => List.nil_sublist _

theorem graham_fold_map (a b c : P2 × Nat) (more : List (P2 × Nat)) : ∀ j, j ≤ more.length →
    (more.take j).foldl (fun st p => p :: popGraham p.1 st) [c, b, a] =
      (hullScan (gPt (a :: b :: c :: more)) 2 [2, 1, 0] j).map (gAt (a :: b :: c :: more))
  | 0, _ => rfl
  | j + 1, hj => by
    have ih := graham_fold_map a b c more j (Nat.le_of_succ_le hj)
    have hj' : j < more.length := hj
    have hg : gAt (a :: b :: c :: more) (j + (2 + 1)) = more[j] := gAt_of_lt (Nat.succ_lt_succ (Nat.succ_lt_succ (Nat.succ_lt_succ hj')))
    rw [List.take_add_one, List.foldl_append, ih, List.getElem?_eq_getElem hj']
    simp only [Option.toList_some, List.foldl_cons, List.foldl_nil]
    rw [hullScan_succ, List.map_cons, ← hg, popGraham_map]

theorem grahamCore_eq (L : List (P2 × Nat)) (h3 : 3 ≤ L.length) :
    grahamCore L = (hullD (gPt L) L.length).map (fun k => (gAt L k).2) := by
  match L, h3 with
  | a :: b :: c :: more, _ =>
    have := graham_fold_map a b c more more.length (Nat.le_refl _)
    rw [List.take_length] at this
    rw [grahamCore, this, hullD, ← List.map_reverse, List.map_map]
    rfl

/-- The scan sequence `L = p0 :: sorted`: what the theorems about `grahamScan` use of the pivot choice, the sort and
the scan.  `D`: degenerate inputs are allowed (ties of the angular order). -/
structure GrahamSeqD (pts : List P2) (L : List (P2 × Nat)) : Prop where
  perm : L.Perm (ip pts)
  lexmin : ∀ q ∈ ip pts, LexLe (gAt L 0).1 q.1
  ang : AngSorted (gPt L) L.length
  eq : grahamScan pts = (hullD (gPt L) L.length).map (fun k => (gAt L k).2)

theorem angSorted_cons (p0 : P2 × Nat) (S : List (P2 × Nat)) (hr : ∀ q ∈ S, RightOf p0.1 q.1)
    (hne : S.Pairwise fun x y => x.1 ≠ y.1) (hs : S.Pairwise fun x y => angBefore p0.1 x.1 y.1 = true) :
    AngSorted (gPt (p0 :: S)) (p0 :: S).length := by
  -- what the comparator says of two members of `S` in this order …
  have hP : S.Pairwise fun x y => ccw p0.1 x.1 y.1 ≤ 0 ∧ (ccw p0.1 x.1 y.1 = 0 → RayExt p0.1 x.1 y.1) :=
    (hne.and hs).imp_of_mem fun {x y} hx hy h =>
      ⟨((angBefore_iff p0.1 x.1 y.1).1 h.2).elim le_of_lt fun h => h.1.le,
        rayExt_of_tie (hr x hx) (hr y hy) h.1 h.2⟩
  -- … read at two positions `1 ≤ i < j` of the sequence, which hold their reflections
  have key : ∀ i j, 1 ≤ i → i < j → j < (p0 :: S).length →
      0 ≤ ccw (gPt (p0 :: S) 0) (gPt (p0 :: S) i) (gPt (p0 :: S) j) ∧
        (ccw (gPt (p0 :: S) 0) (gPt (p0 :: S) i) (gPt (p0 :: S) j) = 0 →
          RayExt (gPt (p0 :: S) 0) (gPt (p0 :: S) i) (gPt (p0 :: S) j)) := by
    intro i j hi hij hj
    obtain ⟨i, rfl⟩ := Nat.exists_eq_add_one_of_ne_zero (Nat.ne_of_gt hi)
    obtain ⟨j, rfl⟩ := Nat.exists_eq_add_one_of_ne_zero (Nat.ne_of_gt (Nat.zero_lt_of_lt hij))
    have h := getD_rel_of_pairwise (d := ((0, 0), 0)) hP (Nat.lt_of_succ_lt_succ hij) (Nat.lt_of_succ_lt_succ hj)
    rw [gPt_cons_succ, gPt_cons_succ, show gPt (p0 :: S) 0 = flipY p0.1 from rfl, ccw_flipY, neg_nonneg,
      neg_eq_zero]
    exact ⟨h.1, fun hz => (h.2 hz).flipY⟩
  exact ⟨fun i j hi hij hj => (key i j hi hij hj).1, fun i j hi hij hj => (key i j hi hij hj).2⟩

theorem grahamScan_struct (pts : List P2) (hnd : pts.Nodup) (h3 : 3 ≤ pts.length) :
    ∃ L, GrahamSeqD pts L := by
  cases hp0 : lexMin (ip pts) with
  | none =>
    have := length_ip pts
    rw [lexMin_eq_none _ hp0] at this
    exact absurd (this.symm ▸ h3 : 3 ≤ ([] : List (P2 × Nat)).length) (Nat.not_succ_le_zero 2)
  | some p0 =>
    obtain ⟨h0, hle⟩ := lexMin_spec hp0
    have hperm := ip_perm_rest h0
    generalize hr : (ip pts).filter (fun q => q.2 ≠ p0.2) = rest at hperm
    obtain ⟨hp0r, hrnd⟩ := List.nodup_cons.1 (hperm.nodup_iff.1 (ip_nodup pts))
    have hmem : ∀ q ∈ rest, q ∈ ip pts := fun q hq => hperm.mem_iff.2 (List.mem_cons_of_mem _ hq)
    have hright : ∀ q ∈ rest, RightOf p0.1 q.1 := fun q hq =>
      (hle q (hmem q hq)).rightOf (ip_point_ne hnd h0 (hmem q hq) fun e => hp0r (e ▸ hq))
    have hsperm := sortAng_perm p0.1 rest
    have hLperm : (p0 :: sortAng p0.1 rest).Perm (ip pts) := (hsperm.cons p0).trans hperm.symm
    refine ⟨p0 :: sortAng p0.1 rest, hLperm, hle,
      angSorted_cons p0 _ (fun q hq => hright q (hsperm.mem_iff.1 hq))
        ((hsperm.nodup_iff.2 hrnd).imp_of_mem fun {x y} hx hy h =>
          ip_point_ne hnd (hmem x (hsperm.mem_iff.1 hx)) (hmem y (hsperm.mem_iff.1 hy)) h)
        (sortAng_pairwise p0.1 rest hright), ?_⟩
    rw [grahamScan_eq_core, hp0]
    simp only
    rw [hr]
    exact grahamCore_eq _ (by rw [hLperm.length_eq, length_ip]; exact h3)

namespace GrahamSeqD
variable {pts : List P2} {L : List (P2 × Nat)} (hs : GrahamSeqD pts L)
include hs

theorem length_eq : L.length = pts.length := by
  rw [hs.perm.length_eq, length_ip]

theorem gAt_spec {k : Nat} (hk : k < L.length) :
    (gAt L k).2 < pts.length ∧ pts[(gAt L k).2]?.getD (0, 0) = (gAt L k).1 :=
  mem_ip.1 (hs.perm.mem_iff.1 (gAt_mem hk))

theorem gPt_eq {k : Nat} (hk : k < L.length) : gPt L k = flipY (pts[(gAt L k).2]?.getD (0, 0)) := by
  rw [(hs.gAt_spec hk).2]; rfl

theorem exists_pos {k : Nat} (hk : k < pts.length) : ∃ k', k' < L.length ∧ (gAt L k').2 = k := by
  have : (pts[k]?.getD (0, 0), k) ∈ L := hs.perm.mem_iff.2 (mem_ip.2 ⟨hk, rfl⟩)
  obtain ⟨k', hk', e⟩ := List.getElem_of_mem this
  exact ⟨k', hk', by rw [gAt_of_lt hk', e]⟩

theorem idx_inj {j k : Nat} (hj : j < L.length) (hk : k < L.length) (h : (gAt L j).2 = (gAt L k).2) :
    j = k := by
  by_contra hne
  exact nodup_getD_ne (hs.perm.nodup_iff.2 (ip_nodup pts)) hj hk hne
    (ip_inj (mem_ip.2 (hs.gAt_spec hj)) (mem_ip.2 (hs.gAt_spec hk)) h)

/-- the closed output polygon is the closed chain of the scan sequence, read in input indices -/
theorem closed_eq (h3 : 3 ≤ L.length) : grahamScan pts ++ [(grahamScan pts)[0]?.getD 0] =
    (hullD (gPt L) L.length ++ [0]).map (fun k => (gAt L k).2) := by
  simp only [hs.eq, List.map_append, List.map_cons, List.map_nil, ← List.head?_eq_getElem?,
    List.head?_map, (hullD_chain (gPt L) h3).head, Option.map_some, Option.getD_some]

end GrahamSeqD

end Knee
