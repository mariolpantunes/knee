import Knee.Lemmas.Geometry
import Knee.Lemmas.Cluster
import Knee.Lemmas.Metrics
/-!
For `Props/Invariance.lean`.  A point is moved by `p + v`, `s • p` (Mathlib's componentwise operations
on pairs), `axScale sx sy` (independent units on the two axes) and `axMap sx sy v` (`axScale`, then
`+ v`: a change of units and of origin; `axMap 1 1 v p = p + v`, `axMap s s 0 p = s • p`); lists
element-wise.  `smapeE`, `rpdE`, `rmspeSqE` are the eps-guarded metrics with the guard as a parameter
(`smapeQ = smapeE epsM` by `rfl`); they are not in `Model/`, and no check runs them against the code.
Also the two refutation schemas (`not_axScale_homogeneous`, `not_scale_invariant`) and `linkage_affine`.
-/
namespace Knee

def axScale (sx sy : Rat) (p : P2) : P2 := (sx * p.1, sy * p.2)

def axMap (sx sy : Rat) (v : P2) (p : P2) : P2 := (sx * p.1 + v.1, sy * p.2 + v.2)

theorem axMap_eq (sx sy : Rat) (v p : P2) : axMap sx sy v p = axScale sx sy p + v := rfl

theorem axMap_one (v p : P2) : axMap 1 1 v p = p + v := by
  obtain ⟨p1, p2⟩ := p; obtain ⟨v1, v2⟩ := v; simp [axMap]

theorem axMap_zero (sx sy : Rat) (p : P2) : axMap sx sy (0, 0) p = axScale sx sy p := by
  simp [axMap, axScale]

theorem axMap_smul (s : Rat) (p : P2) : axMap s s (0, 0) p = s • p := by
  obtain ⟨p1, p2⟩ := p; simp [axMap]

theorem affine_sub (s c a b : Rat) : s * a + c - (s * b + c) = s * (a - b) := by
  rw [add_sub_add_right_eq_sub, mul_sub]

/-- the line `(b, m)` becomes `(sy·b + cy - (sy/sx)·m·cx, (sy/sx)·m)` under `x ↦ sx·x + cx`,
`y ↦ sy·y + cy` (`fitQ_affine`); at the image of `a` it takes the image of the old value -/
theorem line_affine {sx : Rat} (hx : sx ≠ 0) (sy cx cy b m a : Rat) :
    (sx * a + cx) * (sy / sx * m) + (sy * b + cy - sy / sx * m * cx) = sy * (a * m + b) + cy := by
  linear_combination (a * m) * mul_div_cancel₀ sy hx

theorem sub_similar (s : Rat) (v p a : P2) : sub (axMap s s v p) (axMap s s v a) = s • sub p a :=
  Prod.ext (affine_sub _ _ _ _) (affine_sub _ _ _ _)

theorem axMap_inj {sx sy : Rat} (hx : sx ≠ 0) (hy : sy ≠ 0) (v a b : P2) :
    axMap sx sy v a = axMap sx sy v b ↔ a = b := by
  simp only [axMap, Prod.ext_iff, add_left_inj, mul_right_inj' hx, mul_right_inj' hy]

theorem cross_smul_smul (s : Rat) (u v : P2) : cross (s • u) (s • v) = s ^ 2 * cross u v := by
  simp [cross]; ring

theorem dot_smul_smul (s : Rat) (u v : P2) : dot (s • u) (s • v) = s ^ 2 * dot u v := by
  simp [dot]; ring

theorem normSq_smul (s : Rat) (u : P2) : normSq (s • u) = s ^ 2 * normSq u := dot_smul_smul s u u

/-- also at `k = 0` (`0 / 0 = 0`) -/
theorem mul_mul_div_mul (k a b : Rat) : k * (k * a) / (k * b) = k * (a / b) := by
  rcases eq_or_ne k 0 with rfl | hk
  · simp
  · rw [mul_div_mul_left _ _ hk, mul_div_assoc]

/-- two triples on which the ratio `Q(image) / Q` differs refute a common factor -/
theorem not_axScale_homogeneous (Q : P2 → P2 → P2 → Rat) (p a b p' a' b' : P2)
    (h : Q (axScale 2 1 p) (axScale 2 1 a) (axScale 2 1 b) * Q p' a' b'
      ≠ Q (axScale 2 1 p') (axScale 2 1 a') (axScale 2 1 b') * Q p a b) :
    ¬ ∃ c : Rat, ∀ p a b : P2,
      Q (axScale 2 1 p) (axScale 2 1 a) (axScale 2 1 b) = c * Q p a b := by
  rintro ⟨c, hc⟩
  exact h (by rw [hc p a b, hc p' a' b']; ring)

theorem not_scale_invariant (M : List Rat → List Rat → Rat) (y yh : List Rat)
    (h : M (y.map fun v => 2 * v) (yh.map fun v => 2 * v) ≠ M y yh) :
    ¬ ∀ (s : Rat) (y yh : List Rat), 0 < s →
      M (y.map fun v => s * v) (yh.map fun v => s * v) = M y yh :=
  fun H => h (H 2 y yh two_pos)

theorem rmax_affine {k : Rat} (hk : 0 ≤ k) (c a b : Rat) :
    rmax (k * a + c) (k * b + c) = k * rmax a b + c := by
  rw [rmax_eq_max, rmax_eq_max, max_add_add_right, mul_max_of_nonneg _ _ hk]

theorem rmin_affine {k : Rat} (hk : 0 ≤ k) (c a b : Rat) :
    rmin (k * a + c) (k * b + c) = k * rmin a b + c := by
  rw [rmin_eq_min, rmin_eq_min, min_add_add_right, mul_min_of_nonneg _ _ hk]

theorem ovl_affine {k : Rat} (hk : 0 ≤ k) (c lo1 hi1 lo2 hi2 : Rat) :
    ovl (k * lo1 + c) (k * hi1 + c) (k * lo2 + c) (k * hi2 + c) = k * ovl lo1 hi1 lo2 hi2 := by
  unfold ovl
  rw [min_add_add_right, max_add_add_right, ← mul_min_of_nonneg _ _ hk, ← mul_max_of_nonneg _ _ hk,
    add_sub_add_right_eq_sub, ← mul_sub, mul_max_of_nonneg _ _ hk, mul_zero]

theorem rmax_mul_left {k : Rat} (hk : 0 ≤ k) (a b : Rat) : rmax (k * a) (k * b) = k * rmax a b := by
  simpa only [add_zero] using rmax_affine hk 0 a b

theorem rmin_mul_left {k : Rat} (hk : 0 ≤ k) (a b : Rat) : rmin (k * a) (k * b) = k * rmin a b := by
  simpa only [add_zero] using rmin_affine hk 0 a b

theorem normExtent_affine {s : Rat} (hs : 0 < s) (c l r d : Rat) :
    rabs ((s * r + c) - (s * l + c)) / (s * d) = rabs (r - l) / d := by
  rw [affine_sub, rabs_mul_left hs.le, mul_div_mul_left _ _ hs.ne']

theorem sumRange_affine (s c : Rat) (f : Nat → Rat) (a b : Nat) :
    sumRange (fun m => s * f m + c) a b = s * sumRange f a b + ((b - a : Nat) : Rat) * c := by
  have h := sum_map_affineQ s c ((List.range (b - a)).map fun k => f (a + k))
  rwa [List.map_map, List.length_map, List.length_range, List.sum_eq_foldl, List.sum_eq_foldl] at h

theorem meanRange_affine (s c : Rat) (x : Nat → Rat) (start i : Nat) (h : start < i) :
    meanRange (fun m => s * x m + c) start i = s * meanRange x start i + c := by
  have hk : ((i - start : Nat) : Rat) ≠ 0 := Nat.cast_ne_zero.2 (Nat.sub_ne_zero_of_lt h)
  rw [meanRange, meanRange, sumRange_affine, add_div, mul_div_assoc, mul_div_cancel_left₀ _ hk]

theorem linkage_affine (dist : (Nat → Rat) → Rat → Nat → Nat → Rat) (s c : Rat) (x : Nat → Rat)
    (h : ∀ L start i, start < i → dist (fun m => s * x m + c) (s * L) start i = dist x L start i)
    (n : Nat) (t : Rat) :
    linkLabels (dist (fun m => s * x m + c) (s * x (n - 1) + c - (s * x 0 + c))) t n
      = linkLabels (dist x (x (n - 1) - x 0)) t n := by
  rw [affine_sub]
  exact linkLabels_congr _ _ t n (h _)

def smapeE (e : Rat) (y yh : List Rat) : Rat :=
  meanQ (List.zipWith (fun a b => 2 * rabs (b - a) / (rabs a + rabs b + e)) y yh)

def rpdE (e : Rat) (y yh : List Rat) : Rat :=
  meanQ (List.zipWith (fun a b => rabs ((a - b) / ((if a ≤ b then b else a) + e))) y yh)

def rmspeSqE (e : Rat) (y yh : List Rat) : Rat :=
  meanQ (List.zipWith (fun a b => ((a - b) / (a + e)) * ((a - b) / (a + e))) y yh)

theorem smapeQ_eq : smapeQ = smapeE epsM := rfl
theorem rpdQ_eq : rpdQ = rpdE epsM := rfl
theorem rmspeSq_eq : rmspeSq = rmspeSqE epsM := rfl

end Knee
