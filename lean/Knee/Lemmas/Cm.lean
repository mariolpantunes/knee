import Knee.Model.Cm
import Knee.Lemmas.Basic
import Mathlib.Tactic.Ring
import Mathlib.Algebra.Order.Ring.Rat
import Mathlib.Algebra.Order.Field.Basic
/-! Invariants of the greedy matching loop `cmGo` (the theorems on `cm` itself are in `Props/C19`) and the score arithmetic. -/
namespace Knee

theorem cmRow_length (d : Nat → Nat → Rat) (nk e : Nat) :
    ((List.range nk).map (d e)).length = nk := by simp

theorem cmGo_count (d : Nat → Nat → Rat) (t : Rat) (nk : Nat) (es : List Nat)
    (s : Nat × Nat × List Nat) :
    (cmGo d t nk es s).1 + (cmGo d t nk es s).2.1 = s.1 + s.2.1 + es.length := by
  fun_induction cmGo d t nk es s with
  | case1 s => rfl
  | case2 e es tp fn used row idx h ih => simp only [ih, List.length_cons]; omega
  | case3 e es tp fn used row idx h ih => simp only [ih, List.length_cons]; omega

theorem cmGo_used (d : Nat → Nat → Rat) (t : Rat) {nk : Nat} (hk : 0 < nk) (es : List Nat)
    (s : Nat × Nat × List Nat) (hn : s.2.2.Nodup) (hb : ∀ i ∈ s.2.2, i < nk)
    (hl : s.2.2.length = s.1) :
    (cmGo d t nk es s).2.2.Nodup
      ∧ (∀ i ∈ (cmGo d t nk es s).2.2, i < nk)
      ∧ (cmGo d t nk es s).2.2.length = (cmGo d t nk es s).1 := by
  fun_induction cmGo d t nk es s with
  | case1 s => exact ⟨hn, hb, hl⟩
  | case2 e es tp fn used row idx h ih =>
    refine ih (List.nodup_cons.mpr ⟨h.2, hn⟩) (fun i hi => ?_) (by rw [List.length_cons, hl])
    rcases List.mem_cons.mp hi with rfl | hi
    · exact cmRow_length d nk e ▸ argminIdx_lt_length (l := row) ((cmRow_length d nk e).symm ▸ hk)
    · exact hb i hi
  | case3 e es tp fn used row idx h ih => exact ih hn hb hl

/-- pigeonhole: the duplicate-free list of used positions `< nk` has at most `nk` entries -/
theorem cmGo_tp_le (d : Nat → Nat → Rat) (t : Rat) {nk : Nat} (hk : 0 < nk) (es : List Nat) :
    (cmGo d t nk es (0, 0, [])).1 ≤ nk := by
  obtain ⟨hn, hb, hl⟩ := cmGo_used d t hk es (0, 0, []) List.nodup_nil (by simp) rfl
  have := hn.length_le_of_subset (l₂ := List.range nk) fun i hi => List.mem_range.2 (hb i hi)
  rwa [List.length_range, hl] at this

/-- accuracy and F1 are both of the form `a / (a + b)` with `a, b ≥ 0` -/
theorem ratio_unit {a b : Rat} (ha : 0 ≤ a) (hb : 0 ≤ b) : 0 ≤ a / (a + b) ∧ a / (a + b) ≤ 1 :=
  ⟨div_nonneg ha (add_nonneg ha hb),
    div_le_one_of_le₀ (le_add_of_nonneg_right hb) (add_nonneg ha hb)⟩

/-- for non-negative entries the determinant of `[[a, b], [c, d]]` is bounded by the product of the
two row sums, and (exchange `b`, `c`) by that of the two column sums; `mccDenSq` is the product of
the four -/
theorem abs_det_le {a b c d : Int} (ha : 0 ≤ a) (hb : 0 ≤ b) (hc : 0 ≤ c) (hd : 0 ≤ d) :
    |a * d - b * c| ≤ (a + b) * (d + c) :=
  abs_sub_le_of_nonneg_of_le (mul_nonneg ha hd)
    (mul_le_mul (le_add_of_nonneg_right hb) (le_add_of_nonneg_right hc) hd (add_nonneg ha hb))
    (mul_nonneg hb hc)
    (mul_le_mul (le_add_of_nonneg_left ha) (le_add_of_nonneg_left hd) hc (add_nonneg ha hb))

theorem mcc_core {a b c d : Int} (ha : 0 ≤ a) (hb : 0 ≤ b) (hc : 0 ≤ c) (hd : 0 ≤ d) :
    (a * d - b * c) ^ 2 ≤ (a + b) * (a + c) * (d + b) * (d + c) := by
  have h := Int.mul_le_mul (abs_det_le ha hb hc hd) (abs_det_le ha hc hb hd) (abs_nonneg _)
    (Int.mul_nonneg (Int.add_nonneg ha hb) (Int.add_nonneg hd hc))
  rw [mul_comm c b, abs_mul_abs_self, ← sq, mul_mul_mul_comm, mul_comm (d + c), ← mul_assoc] at h
  exact h

theorem mccNum_perfect (tp : Nat) (tn : Int) : mccNum tp 0 0 tn = (tp : Int) * tn := by
  simp [mccNum]

theorem mccDenSq_perfect (tp : Nat) (tn : Int) :
    mccDenSq tp 0 0 tn = ((tp : Int) * tn) * ((tp : Int) * tn) := by
  simp only [mccDenSq]
  push_cast
  ring

end Knee
