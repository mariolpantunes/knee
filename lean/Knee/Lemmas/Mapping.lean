import Knee.Model.Mapping
import Knee.Lemmas.InsertSort
import Knee.Lemmas.GetD
/-! `rdp.compute_removed_points` and `rdp.mapping` (C07), `sortRows` as an instance of `sortBy`, and the totals of
the table (`computeRemoved_total_add`): C01's retained + dropped = n, and `eq_range'_of_pairwise_lt` for C05S.  The
loop invariants relate counts additively (`count + first + position = value`), so that no truncated subtraction
has to be shown exact. -/
namespace Knee

theorem consume_computeRemoved : ∀ (s : List Nat) (k c : Nat), s.Pairwise (· < ·) → k < s.length →
    ∃ c', consume (s[k]?.getD 0) (computeRemoved s) c = (computeRemoved (s.drop k), c') ∧
      c' + s[0]?.getD 0 + k = c + s[k]?.getD 0 := by
  intro s k
  induction k generalizing s with
  | zero =>
    intro c _ hk
    refine ⟨c, ?_, rfl⟩
    match s, hk with
    | [a], _ => rfl
    | a :: b :: t, _ => exact if_neg (Nat.lt_irrefl a)
  | succ k ih =>
    intro c hp hk
    rcases s with _ | ⟨a, _ | ⟨b, t⟩⟩
    · exact absurd hk (Nat.not_lt_zero _)
    · exact absurd (Nat.lt_of_succ_lt_succ hk) (Nat.not_lt_zero _)
    · rw [List.pairwise_cons] at hp
      have hk' : k < (b :: t).length := Nat.lt_of_succ_lt_succ hk
      have hlt : a < (b :: t)[k]?.getD 0 := hp.1 _ (getD_mem _ hk')
      obtain ⟨c', h1, h2⟩ := ih (b :: t) (c + (b - a - 1)) hp.2 hk'
      have hab := hp.1 b List.mem_cons_self
      refine ⟨c', ?_, ?_⟩
      · rw [List.getElem?_cons_succ, computeRemoved, consume, if_pos hlt, h1, List.drop_succ_cons]
      · simp only [List.getElem?_cons_succ, List.getElem?_cons_zero, Option.getD_some] at h2 ⊢
        omega

theorem mappingAux_computeRemoved (r : List Nat) (hp : r.Pairwise (· < ·)) :
    ∀ (I : List Nat) (j c : Nat), c + r[0]?.getD 0 + j = r[j]?.getD 0 →
    I.Pairwise (· ≤ ·) → (∀ i ∈ I, j ≤ i ∧ i < r.length) →
    mappingAux r I (computeRemoved (r.drop j)) c = I.map (fun i => r[i]?.getD 0 - r[0]?.getD 0) := by
  intro I
  induction I with
  | nil => intros; rfl
  | cons i is ih =>
    intro j c hc hI hb
    have ⟨hji, hir⟩ := hb i List.mem_cons_self
    have e : j + (i - j) = i := Nat.add_sub_cancel' hji
    obtain ⟨c', h1, h2⟩ := consume_computeRemoved (r.drop j) (i - j) c
      (hp.sublist (List.drop_sublist j r)) (by rw [List.length_drop]; exact Nat.sub_lt_sub_right hji hir)
    rw [List.getElem?_drop, List.drop_drop, e] at h1
    rw [List.getElem?_drop, List.getElem?_drop, e, Nat.add_zero] at h2
    rw [List.pairwise_cons] at hI
    have hc' : c' + r[0]?.getD 0 + i = r[i]?.getD 0 := by omega
    rw [mappingAux, h1, List.map_cons,
      ih i c' hc' hI.2 fun i' hi' => ⟨hI.1 i' hi', (hb i' (List.mem_cons_of_mem _ hi')).2⟩]
    exact congrArg (· :: _) (Nat.eq_sub_of_add_eq (by rw [Nat.add_comm i, Nat.add_right_comm, hc']))

theorem insertRow_eq : insertRow = insertBy (fun a b => a.1 ≤ b.1) :=
  eq_insertBy (fun _ => rfl) fun _ _ _ => rfl

theorem sortRows_eq (l : List (Nat × Nat)) : sortRows l = sortBy (fun a b => a.1 ≤ b.1) l := by
  induction l with
  | nil => rfl
  | cons r rs ih => rw [sortRows, ih, insertRow_eq, sortBy_cons]

theorem sortRows_perm (l : List (Nat × Nat)) : (sortRows l).Perm l := by
  rw [sortRows_eq]
  exact sortBy_perm l

theorem sortRows_sorted (l : List (Nat × Nat)) : (sortRows l).Pairwise (fun a b => a.1 ≤ b.1) := by
  rw [sortRows_eq]
  exact sortBy_pairwise l (fun _ _ h => h) (fun _ _ h => Nat.le_of_lt (Nat.lt_of_not_le h))
    fun _ _ _ => Nat.le_trans

theorem computeRemoved_row : ∀ (s : List Nat) (i : Nat), i + 1 < s.length →
    (computeRemoved s)[i]? = some (s[i]?.getD 0, s[i + 1]?.getD 0 - s[i]?.getD 0 - 1) := by
  intro s
  fun_induction computeRemoved s with
  | case1 a b t ih =>
    intro i h
    cases i with
    | zero => rfl
    | succ j => exact ih j (Nat.lt_of_succ_lt_succ h)
  | case2 s hs =>
    intro i h
    match s, hs, h with
    | a :: b :: t, hs, _ => exact absurd rfl (hs a b t)

theorem computeRemoved_map_fst (s : List Nat) : (computeRemoved s).map (·.1) = s.dropLast := by
  fun_induction computeRemoved s with
  | case1 a b t ih => rw [List.map_cons, ih]; rfl
  | case2 s h =>
    match s, h with
    | [], _ => rfl
    | [a], _ => rfl
    | a :: b :: t, h => exact absurd rfl (h a b t)

theorem computeRemoved_length (s : List Nat) : (computeRemoved s).length = s.length - 1 := by
  rw [← List.length_map (f := (·.1)), computeRemoved_map_fst, List.length_dropLast]

theorem computeRemoved_keys (s : List Nat) (hs : s.Pairwise (· < ·)) :
    (computeRemoved s).Pairwise (fun a b => a.1 < b.1) := by
  have := hs.sublist (List.dropLast_sublist s)
  rwa [← computeRemoved_map_fst, List.pairwise_map] at this

theorem eq_of_key_eq {l : List (Nat × Nat)} (hl : l.Pairwise (fun a b => a.1 < b.1))
    {a b : Nat × Nat} (ha : a ∈ l) (hb : b ∈ l) (h : a.1 = b.1) : a = b :=
  Decidable.byContradiction fun hne =>
    pairwise_forall_ne (fun _ _ => Ne.symm) (hl.imp Nat.ne_of_lt) ha hb hne h

theorem sortRows_of_perm (s : List Nat) (hs : s.Pairwise (· < ·)) (rows : List (Nat × Nat))
    (hperm : rows.Perm (computeRemoved s)) : sortRows rows = computeRemoved s := by
  have hk := computeRemoved_keys s hs
  have hle : (computeRemoved s).Pairwise (fun a b => a.1 ≤ b.1) :=
    hk.imp (fun h => Nat.le_of_lt h)
  refine List.Perm.eq_of_pairwise (le := fun a b => a.1 ≤ b.1) ?_ (sortRows_sorted rows) hle
    ((sortRows_perm rows).trans hperm)
  intro a b ha hb h1 h2
  have ha' : a ∈ computeRemoved s := hperm.subset ((sortRows_perm rows).subset ha)
  exact eq_of_key_eq hk ha' hb (Nat.le_antisymm h1 h2)

/-- retained + dropped + first = last + 1: the form of `computeRemoved_total` an induction can carry -/
theorem computeRemoved_total_add : ∀ (s : List Nat), s.Pairwise (· < ·) → s ≠ [] →
    s.length + ((computeRemoved s).map (·.2)).sum + s[0]?.getD 0 = s.getLast?.getD 0 + 1 := by
  intro s
  induction s with
  | nil => intro _ h; exact absurd rfl h
  | cons a t ih =>
    intro hp _
    cases t with
    | nil => exact Nat.add_comm 1 a
    | cons b t' =>
      have hab : a < b := List.rel_of_pairwise_cons hp List.mem_cons_self
      have := ih hp.of_cons (List.cons_ne_nil b t')
      rw [List.getElem?_cons_zero, Option.getD_some] at this ⊢
      rw [computeRemoved, List.map_cons, List.sum_cons, List.length_cons, List.getLast?_cons_cons]
      omega

theorem eq_range'_of_pairwise_lt : ∀ (l : List Nat) (a : Nat), (a :: l).Pairwise (· < ·) →
    (a :: l).getLast? = some (a + l.length) → a :: l = List.range' a (l.length + 1) := by
  intro l
  induction l with
  | nil => intro a _ _; rfl
  | cons c t ih =>
    intro a h hl
    have hac : a < c := List.rel_of_pairwise_cons h List.mem_cons_self
    -- dropped counts are ≥ 0, so `length + first ≤ last + 1` for the tail; equality forces the step `c = a + 1`
    have htot := computeRemoved_total_add (c :: t) h.of_cons (List.cons_ne_nil _ _)
    rw [List.getLast?_cons_cons, List.length_cons] at hl
    rw [hl] at htot
    simp only [List.length_cons, List.getElem?_cons_zero, Option.getD_some] at htot
    obtain rfl : c = a + 1 := by omega
    rw [List.length_cons, List.range'_succ, ← ih (a + 1) h.of_cons (by rw [hl]; congr 1; omega)]

theorem computeRemoved_total : ∀ (s : List Nat), s.Pairwise (· < ·) → s ≠ [] →
    s.length + ((computeRemoved s).map (·.2)).sum = s.getLast?.getD 0 - s[0]?.getD 0 + 1 := by
  intro s hp hne
  have := computeRemoved_total_add s hp hne
  have := List.length_pos_iff.mpr hne
  omega

theorem computeRemoved_total_ends {n : Nat} {s : List Nat} (hp : s.Pairwise (· < ·))
    (h0 : s[0]? = some 0) (hl : s.getLast? = some (n - 1)) (hn : 1 ≤ n) :
    s.length + ((computeRemoved s).map (·.2)).sum = n := by
  rw [computeRemoved_total s hp (by intro e; simp [e] at h0), h0, hl]
  simp only [Option.getD_some]
  omega

end Knee
