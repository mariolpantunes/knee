import Knee.Model.Geometry
import Mathlib.Algebra.Order.Ring.Rat
import Mathlib.Data.List.Nodup
/-! `rankOf` (`knee_ranking.rank`, `Model/Geometry`): entry `i` gets `rk v i`, the number of entries that sort strictly before
it in the stable order `rkLt` (smaller value, or equal value at a smaller index). -/
namespace Knee

/-- strict lexicographic comparison of `(v[j], j)` and `(v[i], i)` (stable sort order): the test
written inside `rankOf`, repeated here word for word so that `rankOf_eq` is `rfl` -/
def rkLt (v : List Rat) (j i : Nat) : Bool :=
  decide (v[j]?.getD 0 < v[i]?.getD 0) || (decide (v[j]?.getD 0 = v[i]?.getD 0) && decide (j < i))

def rk (v : List Rat) (i : Nat) : Nat := ((List.range v.length).filter fun j => rkLt v j i).length

theorem rankOf_eq (v : List Rat) : rankOf v = (List.range v.length).map (rk v) := rfl

theorem rkLt_iff (v : List Rat) (j i : Nat) :
    rkLt v j i = true ↔ v[j]?.getD 0 < v[i]?.getD 0 ∨ (v[j]?.getD 0 = v[i]?.getD 0 ∧ j < i) := by
  simp [rkLt]

theorem rkLt_irrefl (v : List Rat) (i : Nat) : rkLt v i i = false := by
  simp [rkLt]

theorem rkLt_trans (v : List Rat) {i j k : Nat} (h1 : rkLt v i j = true) (h2 : rkLt v j k = true) :
    rkLt v i k = true := by
  rw [rkLt_iff] at *
  rcases h1 with h1 | ⟨h1, h1'⟩ <;> rcases h2 with h2 | ⟨h2, h2'⟩
  · exact Or.inl (lt_trans h1 h2)
  · exact Or.inl (h2 ▸ h1)
  · exact Or.inl (h1 ▸ h2)
  · exact Or.inr ⟨h1.trans h2, Nat.lt_trans h1' h2'⟩

theorem rkLt_total (v : List Rat) {i j : Nat} (h : i ≠ j) : rkLt v i j = true ∨ rkLt v j i = true := by
  simp only [rkLt_iff]
  rcases lt_trichotomy (v[i]?.getD 0) (v[j]?.getD 0) with h1 | h1 | h1
  · exact Or.inl (Or.inl h1)
  · rcases Nat.lt_or_gt_of_ne h with h2 | h2
    · exact Or.inl (Or.inr ⟨h1, h2⟩)
    · exact Or.inr (Or.inr ⟨h1.symm, h2⟩)
  · exact Or.inr (Or.inl h1)

theorem rk_lt_length (v : List Rat) {i : Nat} (hi : i < v.length) : rk v i < v.length := by
  have := List.length_filter_lt_length_iff_exists (p := fun j => rkLt v j i).2
    ⟨i, List.mem_range.2 hi, by rw [rkLt_irrefl]; exact Bool.false_ne_true⟩
  rwa [List.length_range] at this

theorem length_filter_lt {α : Type} {p q : α → Bool} {l : List α} (himp : ∀ x, p x → q x)
    {x : α} (hx : x ∈ l) (hq : q x = true) (hp : p x = false) :
    (l.filter p).length < (l.filter q).length := by
  have hs := List.monotone_filter_right l himp
  refine lt_of_le_of_ne hs.length_le fun e => ?_
  have hm : x ∈ l.filter p := hs.eq_of_length e ▸ List.mem_filter.2 ⟨hx, hq⟩
  exact Bool.false_ne_true (hp ▸ (List.mem_filter.1 hm).2)

theorem rk_lt_of_rkLt (v : List Rat) {i j : Nat} (hi : i < v.length) (h : rkLt v i j = true) :
    rk v i < rk v j :=
  length_filter_lt (fun _ hk => rkLt_trans v hk h) (List.mem_range.2 hi) h (rkLt_irrefl v i)

theorem rankOf_getD (v : List Rat) {i : Nat} (hi : i < v.length) :
    (rankOf v)[i]?.getD 0 = rk v i := by
  simp [rankOf_eq, hi]

theorem rk_injective (v : List Rat) {i j : Nat} (hi : i < v.length) (hj : j < v.length)
    (h : rk v i = rk v j) : i = j := by
  by_contra hne
  rcases rkLt_total v hne with h1 | h1
  · exact absurd h (Nat.ne_of_lt (rk_lt_of_rkLt v hi h1))
  · exact absurd h.symm (Nat.ne_of_lt (rk_lt_of_rkLt v hj h1))

theorem rankOf_length (v : List Rat) : (rankOf v).length = v.length := by
  simp [rankOf]

theorem rankOf_lt (v : List Rat) : ∀ r ∈ rankOf v, r < v.length :=
  rankOf_eq v ▸ List.forall_mem_map.2 fun _ hi => rk_lt_length v (List.mem_range.1 hi)

theorem rankOf_nodup (v : List Rat) : (rankOf v).Nodup :=
  rankOf_eq v ▸ List.nodup_range.map_on fun _ hi _ hj h =>
    rk_injective v (List.mem_range.1 hi) (List.mem_range.1 hj) h

theorem rk_lt_of_lt (v : List Rat) {i j : Nat} (hi : i < v.length) (h : v[i]?.getD 0 < v[j]?.getD 0) :
    rk v i < rk v j :=
  rk_lt_of_rkLt v hi ((rkLt_iff v i j).2 (Or.inl h))

end Knee
