import Knee.Lemmas.ElbowCriteria
import Knee.Props.C16S
/-!
The two sides of a split in the L-method error of every Fit × Cost option (`lmErrGen_eq`: residuals
`lmResid`, combined by `lmCost`) on an exact two-slope elbow.  Both one-side residuals are a residual
sum of squares against a line: a run of points on one arm is fitted exactly (`IsElbow.resid_arm`), a
run that has the corner strictly inside lies on no line at all (`IsElbow.resid_across`).  The error at
every split of every admissible prefix follows in `Props/C03D.lean`.
-/
namespace Knee

/-- a line through the two outer points of a bend misses the middle one -/
theorem bend_off_line {s1 s2 x1 x2 x3 y1 y2 y3 m b : Rat} (h12 : x1 ≠ x2) (h23 : x2 ≠ x3)
    (hs : s1 ≠ s2)
    (e1 : y1 = y2 + s1 * (x1 - x2)) (e3 : y3 = y2 + s2 * (x3 - x2))
    (f1 : x1 * m + b = y1) (f3 : x3 * m + b = y3) : y2 ≠ x2 * m + b := by
  intro f2
  have k1 : s1 = m :=
    mul_right_cancel₀ (sub_ne_zero.mpr h12) (by linear_combination -e1 - f1 - f2)
  have k3 : s2 = m :=
    mul_right_cancel₀ (sub_ne_zero.mpr h23.symm) (by linear_combination -e3 - f3 - f2)
  exact hs (k1.trans k3.symm)

theorem rss_line_pos_of_bend {x y : Nat → Rat} {s1 s2 : Rat} {L : List Nat} {p q r : Nat}
    (hp : p ∈ L) (hq : q ∈ L) (hr : r ∈ L) (h1 : x p ≠ x q) (h2 : x q ≠ x r) (hs : s1 ≠ s2)
    (e1 : y p = y q + s1 * (x p - x q)) (e3 : y r = y q + s2 * (x r - x q)) (l : Rat × Rat) :
    0 < rssQ (L.map y) (lineQ (L.map x) l) := by
  by_cases f1 : y p = x p * l.2 + l.1
  · by_cases f3 : y r = x r * l.2 + l.1
    · exact rss_line_pos x y l L hq
        (bend_off_line h1 h2 hs e1 e3 f1.symm f3.symm)
    · exact rss_line_pos x y l L hr f3
  · exact rss_line_pos x y l L hp f1

/-- residual of one side of the split: least-squares (`bestfit`) or end-point fit -/
def lmResid (bestfit : Bool) (xs ys : List Rat) : Rat :=
  if bestfit then olsRss xs ys else rssQ ys (lineQ xs (fitQ xs ys))

theorem lmResid_eq_rss (bestfit : Bool) (xs ys : List Rat) :
    lmResid bestfit xs ys = rssQ ys (lineQ xs (if bestfit then olsQ xs ys else fitQ xs ys)) := by
  cases bestfit
  · rfl
  · exact (rss_ols_eq_olsRss xs ys).symm

theorem lmResid_nonneg (bestfit : Bool) (xs ys : List Rat) : 0 ≤ lmResid bestfit xs ys := by
  rw [lmResid_eq_rss]
  exact rss_nonneg _ _

theorem rss_fit_zero {x y : Nat → Rat} {s : Rat} {L : List Nat} {i0 il : Nat}
    (hh : L.head? = some i0) (hl : L.getLast? = some il) (hne : x i0 ≠ x il)
    (hline : ∀ k ∈ L, y k = y i0 + s * (x k - x i0)) :
    rssQ (L.map y) (lineQ (L.map x) (fitQ (L.map x) (L.map y))) = 0 := by
  have hm : (y i0 - y il) / (x i0 - x il) = s := by
    rw [hline il (List.mem_of_mem_getLast? hl), div_eq_iff (sub_ne_zero.mpr hne)]
    ring
  rw [fitQ_map x y L hh hl hne, hm]
  exact rss_line_zero x y _ L fun k hk => by rw [hline k hk]; ring

/-- no line does better than the one the points lie on, which leaves no residual -/
theorem olsRss_eq_zero_of_line {x y : Nat → Rat} {s : Rat} {L : List Nat} {i0 : Nat}
    (hline : ∀ k ∈ L, y k = y i0 + s * (x k - x i0)) : olsRss (L.map x) (L.map y) = 0 := by
  refine le_antisymm ?_ (lmResid_nonneg true _ _)
  rw [← rss_ols_eq_olsRss,
    ← rss_line_zero x y (y i0 - s * x i0, s) L fun k hk => by rw [hline k hk]; ring]
  exact ols_minimises_rss _ _ (by simp) _ s

theorem lmResid_zero (bestfit : Bool) {x y : Nat → Rat} {s : Rat} {L : List Nat} {i0 il : Nat}
    (hh : L.head? = some i0) (hl : L.getLast? = some il) (hne : x i0 ≠ x il)
    (hline : ∀ k ∈ L, y k = y i0 + s * (x k - x i0)) :
    lmResid bestfit (L.map x) (L.map y) = 0 := by
  cases bestfit
  · exact rss_fit_zero hh hl hne hline
  · exact olsRss_eq_zero_of_line hline

theorem lmResid_pos (bestfit : Bool) {x y : Nat → Rat} {s1 s2 : Rat} {L : List Nat} {p q r : Nat}
    (hp : p ∈ L) (hq : q ∈ L) (hr : r ∈ L) (h1 : x p ≠ x q) (h2 : x q ≠ x r) (hs : s1 ≠ s2)
    (e1 : y p = y q + s1 * (x p - x q)) (e3 : y r = y q + s2 * (x r - x q)) :
    0 < lmResid bestfit (L.map x) (L.map y) := by
  rw [lmResid_eq_rss]
  exact rss_line_pos_of_bend hp hq hr h1 h2 hs e1 e3 _

/-- the cost combination of `compute_error`: RMSE-like or RSS; the two length ratios `lr rr` come
before the two residuals `rl rrt`, in the order `lmErrGen` computes them -/
def lmCost (sq : Rat → Rat) (rmse : Bool) (lr rr rl rrt : Rat) : Rat :=
  if rmse then lr * sq (rl * lr) + rr * sq (rr * rrt) else rl * lr + rrt * rr

theorem lmErrGen_eq (sq : Rat → Rat) (bestfit rmse : Bool) (x y : Nat → Rat) (len i : Nat)
    (hi : i < len) :
    lmErrGen sq bestfit rmse x y len i =
      lmCost sq rmse ((x i - x 0) / (x (len - 1) - x 0)) ((x (len - 1) - x i) / (x (len - 1) - x 0))
        (lmResid bestfit ((List.range' 0 (i + 1)).map x) ((List.range' 0 (i + 1)).map y))
        (lmResid bestfit ((List.range' i (len - i)).map x) ((List.range' i (len - i)).map y)) := by
  have ht : (List.range len).take (i + 1) = List.range' 0 (i + 1) := by
    rw [List.take_range, Nat.min_eq_left (by omega), List.range_eq_range']
  have hd : (List.range len).drop i = List.range' i (len - i) := by
    rw [List.range_eq_range', List.drop_range']; simp
  unfold lmErrGen lmCost lmResid
  simp only [← List.map_take, ← List.map_drop, ht, hd]

/-- the end-point-fit RSS error of `Model/Elbow.lean` is the `point_fit` × `rss` instance (`sq` is
not used by the RSS cost) -/
theorem lmErrRss_eq_gen (x y : Nat → Rat) (len i : Nat) :
    lmErrRss x y len i = lmErrGen id false false x y len i := rfl

theorem lmErrsRss_eq_gen (x y : Nat → Rat) : lmErrsRss x y = lmErrsGen id false false x y := rfl

theorem lmCost_zero {sq : Rat → Rat} (hsq0 : sq 0 = 0) (rmse : Bool) (lr rr : Rat) :
    lmCost sq rmse lr rr 0 0 = 0 := by
  unfold lmCost
  cases rmse
  · simp
  · simp [hsq0]

theorem lmCost_pos {sq : Rat → Rat} (hsq0 : sq 0 = 0) (hsqpos : ∀ v, 0 < v → 0 < sq v)
    (rmse : Bool) (lr rr rl rrt : Rat) (hlr : 0 < lr) (hrr : 0 < rr) (hrl : 0 ≤ rl) (hrrt : 0 ≤ rrt)
    (hpos : 0 < rl ∨ 0 < rrt) : 0 < lmCost sq rmse lr rr rl rrt := by
  have hsq : ∀ v, 0 ≤ v → 0 ≤ sq v := fun v hv =>
    (lt_or_eq_of_le hv).elim (fun h => (hsqpos v h).le) fun h => by rw [← h, hsq0]
  unfold lmCost
  cases rmse
  · rcases hpos with h | h
    · exact add_pos_of_pos_of_nonneg (mul_pos h hlr) (mul_nonneg hrrt hrr.le)
    · exact add_pos_of_nonneg_of_pos (mul_nonneg hrl hlr.le) (mul_pos h hrr)
  · rcases hpos with h | h
    · exact add_pos_of_pos_of_nonneg (mul_pos hlr (hsqpos _ (mul_pos h hlr)))
        (mul_nonneg hrr.le (hsq _ (mul_nonneg hrr.le hrrt)))
    · exact add_pos_of_nonneg_of_pos (mul_nonneg hlr.le (hsq _ (mul_nonneg hrl hlr.le)))
        (mul_pos hrr (hsqpos _ (mul_pos hrr h)))

section elbow
variable {x y : Nat → Rat} {n c : Nat} {s1 s2 : Rat}

theorem IsElbow.resid_arm (h : IsElbow x y n c s1 s2) (bestfit : Bool) (a m : Nat) (hm : 2 ≤ m)
    (hn : a + m ≤ n) (harm : a + m ≤ c + 1 ∨ c ≤ a) :
    lmResid bestfit ((List.range' a m).map x) ((List.range' a m).map y) = 0 := by
  have hh : (List.range' a m).head? = some a := by rw [List.head?_range', if_neg (by omega)]
  have hl : (List.range' a m).getLast? = some (a + m - 1) := by
    rw [List.getLast?_range', if_neg (by omega)]
  have hne := (h.x_lt (i := a) (j := a + m - 1) (by omega) (by omega)).ne
  rcases harm with harm | harm
  · exact lmResid_zero bestfit hh hl hne fun k hk => by
      have := List.mem_range'_1.mp hk
      exact h.left_eq (by omega) (by omega)
  · exact lmResid_zero bestfit hh hl hne fun k hk => by
      have := List.mem_range'_1.mp hk
      exact h.right_eq (by omega) (by omega) harm (by omega)

theorem IsElbow.resid_across (h : IsElbow x y n c s1 s2) (bestfit : Bool) (a m : Nat)
    (hn : a + m ≤ n) (ha : a < c) (hc : c + 1 < a + m) :
    0 < lmResid bestfit ((List.range' a m).map x) ((List.range' a m).map y) := by
  have hcn : c + 1 < n := hc.trans_le hn
  -- the bend `a`, `c`, `c + 1`
  exact lmResid_pos bestfit (List.mem_range'_1.mpr ⟨Nat.le_refl a, by omega⟩)
    (List.mem_range'_1.mpr ⟨ha.le, by omega⟩) (List.mem_range'_1.mpr ⟨by omega, hc⟩)
    (h.x_lt ha (Nat.lt_of_succ_lt hcn)).ne (h.x_lt (Nat.lt_succ_self c) hcn).ne
    h.slopes (h.left_eq ha.le (Nat.le_refl c))
    (h.right_eq (Nat.le_succ c) hcn (Nat.le_refl c) (Nat.lt_of_succ_lt hcn))

end elbow

end Knee
