import Knee.Model.Detectors
import Knee.Lemmas.Basic
import Knee.Lemmas.GetD
/-! For `Model/Detectors`: Menger's zero-padded array (`padded_*`); the loops (DFDT, L-method, `peaksGo`):
equations, fuel bounds, termination; and, for C03, what the detectors return when the criterion has a
strict unique extremum or a second round repeats the first. -/
namespace Knee

theorem padded_length (cs : List Rat) : ((0 : Rat) :: cs ++ [0]).length = cs.length + 2 := by
  simp

theorem padded_zero (cs : List Rat) : ((0 : Rat) :: cs ++ [0])[0]?.getD 0 = 0 :=
  rfl

theorem padded_last (cs : List Rat) : ((0 : Rat) :: cs ++ [0])[cs.length + 1]?.getD 0 = 0 := by
  rw [List.cons_append, List.getElem?_cons_succ, List.getElem?_concat_length]
  rfl

theorem padded_succ (cs : List Rat) (j : Nat) (hj : j < cs.length) :
    ((0 : Rat) :: cs ++ [0])[j + 1]?.getD 0 = cs[j]?.getD 0 := by
  rw [List.cons_append, List.getElem?_cons_succ, List.getElem?_append_left hj]

theorem dfdtInner_add_range {diffs : Nat → List Rat} {n : Nat}
    (hd : ∀ c, (diffs c).length = n - c) (c : Nat) (hc : n - c > 2) :
    c + 1 ≤ dfdtInner (diffs c) + c ∧ dfdtInner (diffs c) + c + 2 ≤ n := by
  have : 1 ≤ dfdtInner (diffs c) ∧ dfdtInner (diffs c) + 2 ≤ (diffs c).length :=
    interior_argmin_range (by rw [hd]; omega)
  rw [hd] at this
  omega

/-- Bound on the rounds still to come: a further round needs `last < knee`, and then the next knee
must exceed `knee` for the loop to go on, while every knee stays `≤ n - 2`. -/
def dfdtBound (n : Nat) (last : Int) (knee : Nat) : Nat := if last < (knee : Int) then n - knee else 0

theorem dfdtLoop_stop {diffs : Nat → List Rat} {n f : Nat} {last : Int} {knee cutoff : Nat}
    (h : ¬ (last < (knee : Int) ∧ n - cutoff > 2)) :
    dfdtLoop diffs n (f + 1) last knee cutoff = knee := by
  rw [dfdtLoop, if_neg h]

theorem dfdtLoop_step {diffs : Nat → List Rat} {n f : Nat} {last : Int} {knee cutoff : Nat}
    (h : last < (knee : Int) ∧ n - cutoff > 2) :
    dfdtLoop diffs n (f + 1) last knee cutoff =
      dfdtLoop diffs n f (knee : Int) (dfdtInner (diffs cutoff) + cutoff)
        ((dfdtInner (diffs cutoff) + cutoff + 1) / 2) := by
  rw [dfdtLoop, if_pos h]

theorem dfdtRounds_stop {diffs : Nat → List Rat} {n f : Nat} {last : Int} {knee cutoff : Nat}
    (h : ¬ (last < (knee : Int) ∧ n - cutoff > 2)) :
    dfdtRounds diffs n (f + 1) last knee cutoff = 0 := by
  rw [dfdtRounds, if_neg h]

theorem dfdtRounds_step {diffs : Nat → List Rat} {n f : Nat} {last : Int} {knee cutoff : Nat}
    (h : last < (knee : Int) ∧ n - cutoff > 2) :
    dfdtRounds diffs n (f + 1) last knee cutoff =
      1 + dfdtRounds diffs n f (knee : Int) (dfdtInner (diffs cutoff) + cutoff)
        ((dfdtInner (diffs cutoff) + cutoff + 1) / 2) := by
  rw [dfdtRounds, if_pos h]

theorem dfdtBound_step {diffs : Nat → List Rat} {n : Nat} (hd : ∀ c, (diffs c).length = n - c)
    (last : Int) (knee cutoff : Nat) (hk : knee + 2 ≤ n)
    (h : last < (knee : Int) ∧ n - cutoff > 2) :
    dfdtBound n (knee : Int) (dfdtInner (diffs cutoff) + cutoff) + 1 ≤ dfdtBound n last knee := by
  have := dfdtInner_add_range hd cutoff h.2
  unfold dfdtBound
  rw [if_pos h.1]
  split <;> omega

theorem dfdtRounds_le_bound {diffs : Nat → List Rat} {n : Nat} (hd : ∀ c, (diffs c).length = n - c)
    (f : Nat) (last : Int) (knee cutoff : Nat) (hk : knee + 2 ≤ n) :
    dfdtRounds diffs n f last knee cutoff ≤ dfdtBound n last knee := by
  fun_induction dfdtRounds diffs n f last knee cutoff with
  | case1 => exact Nat.zero_le _
  | case2 f last knee cutoff h k' ih =>
    -- in terms of the model's `k'` (the next knee), as `ih` is, for `omega`
    have hb : dfdtBound n knee k' + 1 ≤ _ := dfdtBound_step hd last knee cutoff hk h
    have := ih (dfdtInner_add_range hd cutoff h.2).2
    omega
  | case3 => exact Nat.zero_le _

theorem dfdtLoop_add_fuel {diffs : Nat → List Rat} {n : Nat} (hd : ∀ c, (diffs c).length = n - c)
    (extra f : Nat) (last : Int) (knee cutoff : Nat) (hk : knee + 2 ≤ n)
    (hb : dfdtBound n last knee ≤ f) :
    dfdtLoop diffs n (f + extra) last knee cutoff = dfdtLoop diffs n f last knee cutoff := by
  induction f generalizing last knee cutoff with
  | zero =>
    have hnc : ¬ (last < (knee : Int) ∧ n - cutoff > 2) := by
      intro h
      rw [dfdtBound, if_pos h.1] at hb
      omega
    cases extra with
    | zero => rfl
    | succ e => rw [Nat.zero_add, dfdtLoop_stop hnc]; rfl
  | succ f ih =>
    rw [Nat.add_right_comm]
    by_cases h : last < (knee : Int) ∧ n - cutoff > 2
    · have := dfdtBound_step hd last knee cutoff hk h
      rw [dfdtLoop_step h, dfdtLoop_step h]
      exact ih _ _ _ (dfdtInner_add_range hd cutoff h.2).2 (by omega)
    · rw [dfdtLoop_stop h, dfdtLoop_stop h]

theorem dfdtLoop_invariant {diffs : Nat → List Rat} {n : Nat} {P : Nat → Prop}
    (hstep : ∀ c, n - c > 2 → P (dfdtInner (diffs c) + c))
    (f : Nat) (last : Int) (knee cutoff : Nat) (hk : P knee) :
    P (dfdtLoop diffs n f last knee cutoff) := by
  fun_induction dfdtLoop diffs n f last knee cutoff with
  | case1 => exact hk
  | case2 f last knee cutoff h k' ih => exact ih (hstep cutoff h.2)
  | case3 => exact hk

/-- on `n ≥ 3` points the first round is always executed -/
theorem dfdtKnee_invariant {diffs : Nat → List Rat} {n : Nat} {P : Nat → Prop} (hn : 3 ≤ n)
    (hstep : ∀ c, n - c > 2 → P (dfdtInner (diffs c) + c)) : P (dfdtKnee diffs n) := by
  have h : (-1 : Int) < ((0 : Nat) : Int) ∧ n - 0 > 2 := ⟨by decide, hn⟩
  rw [dfdtKnee, dfdtLoop_step h]
  exact dfdtLoop_invariant hstep _ _ _ _ (hstep 0 h.2)

theorem mem_peaksGo (l : List Rat) (i p : Nat) :
    p ∈ peaksGo i l ↔ ∃ j, p = i + j + 1 ∧ j + 2 < l.length ∧
      l[j]?.getD 0 < l[j + 1]?.getD 0 ∧ l[j + 2]?.getD 0 < l[j + 1]?.getD 0 := by
  -- in the two recursive cases `j = 0` is the triple at the head, `j + 1` the peak `j` of the tail: the same
  -- entries by definition, the length test moved by one
  induction i, l using peaksGo.induct with
  | case1 i a b c t h ih =>
    rw [peaksGo, if_pos h, List.mem_cons, ← Nat.or_exists_add_one, ih]
    refine or_congr (iff_self_and.mpr fun _ => ⟨Nat.le_add_left 3 _, h⟩) (exists_congr fun j => ?_)
    rw [Nat.add_right_comm i 1 j]
    exact and_congr_right' (and_congr_left' Nat.succ_lt_succ_iff.symm)
  | case2 i a b c t h ih =>
    rw [peaksGo, if_neg h, ← Nat.or_exists_add_one, ih, or_iff_right fun h0 => h h0.2.2]
    refine exists_congr fun j => ?_
    rw [Nat.add_right_comm i 1 j]
    exact and_congr_right' (and_congr_left' Nat.succ_lt_succ_iff.symm)
  | case3 l i hl =>
    match l, hl with
    | [], _ | [_], _ | [_, _], _ => simp [peaksGo, Nat.not_lt.mpr (Nat.le_add_left 2 _)]
    | a :: b :: c :: t, hl => exact (hl a b c t rfl).elim

/-- the knee found on the sub-curve `x[0:cutoff+1]` -/
def lmScanAt (errs : Nat → List Rat) (n cutoff : Nat) : Nat :=
  lmethodScan (errs (min (cutoff + 1) n))

theorem lmethodLoop_stop {errs : Nat → List Rat} {mode : Refinement} {n limit f : Nat} {last : Int}
    {cur cutoff : Nat} {done : Bool} (h : ¬ ((cur : Int) ≠ last ∧ done = false)) :
    lmethodLoop errs mode n limit (f + 1) last cur cutoff done = some cur := by
  rw [lmethodLoop, if_neg h]

theorem lmethodLoop_step_none {errs : Nat → List Rat} {n limit f : Nat} {last : Int}
    {cur cutoff : Nat} (h : (cur : Int) ≠ last) :
    lmethodLoop errs .none n limit (f + 1) last cur cutoff false =
      lmethodLoop errs .none n limit f (cur : Int) (lmScanAt errs n cutoff) cutoff true := by
  rw [lmethodLoop, if_pos ⟨h, rfl⟩]
  rfl

theorem lmethodLoop_step_original {errs : Nat → List Rat} {n limit f : Nat} {last : Int}
    {cur cutoff : Nat} (h : (cur : Int) ≠ last) :
    lmethodLoop errs .original n limit (f + 1) last cur cutoff false =
      lmethodLoop errs .original n limit f (cur : Int) (lmScanAt errs n cutoff)
        (max limit (min (lmScanAt errs n cutoff * 2) n))
        (decide (cur ≤ lmScanAt errs n cutoff)) := by
  rw [lmethodLoop, if_pos ⟨h, rfl⟩]
  rfl

theorem lmethodLoop_step_adjusted {errs : Nat → List Rat} {n limit f : Nat} {last : Int}
    {cur cutoff : Nat} (h : (cur : Int) ≠ last) :
    lmethodLoop errs .adjusted n limit (f + 1) last cur cutoff false =
      lmethodLoop errs .adjusted n limit f (cur : Int) (lmScanAt errs n cutoff)
        (max limit ((lmScanAt errs n cutoff + cur) / 2)) false := by
  rw [lmethodLoop, if_pos ⟨h, rfl⟩]
  rfl

theorem lmScanAt_range {errs : Nat → List Rat} (he : ∀ len, (errs len).length = len - 4)
    {n cutoff : Nat} (hn : 5 ≤ n) (hc : 4 ≤ cutoff) :
    2 ≤ lmScanAt errs n cutoff ∧ lmScanAt errs n cutoff + 3 ≤ n ∧
      lmScanAt errs n cutoff + 2 ≤ cutoff := by
  have := argminIdx_lt_length (l := errs (min (cutoff + 1) n))
    (by rw [he]; exact Nat.sub_pos_of_lt (Nat.lt_min.mpr ⟨Nat.lt_succ_of_le hc, hn⟩))
  rw [he, Nat.lt_sub_iff_add_lt, Nat.lt_min] at this
  unfold lmScanAt lmethodScan
  omega

/-- `done` is set as soon as the new knee is not left of the old one, so while the `original` loop is
unfinished `cur` strictly decreases: `cur + 1` more rounds at most. -/
theorem lmethodLoop_original_total {errs : Nat → List Rat} (he : ∀ len, (errs len).length = len - 4)
    {n limit : Nat} (hn : 5 ≤ n) (hl : 4 ≤ limit) (f : Nat) (last : Int) (cur cutoff : Nat)
    (done : Bool) (hc : 4 ≤ cutoff) (h2 : 2 ≤ cur) (h3 : cur + 3 ≤ n)
    (hf : (if done = true then 0 else cur + 1) < f) :
    ∃ k, lmethodLoop errs .original n limit f last cur cutoff done = some k ∧ 2 ≤ k ∧ k + 3 ≤ n := by
  induction f generalizing last cur cutoff done with
  | zero => omega
  | succ f ih =>
    by_cases h : (cur : Int) ≠ last ∧ done = false
    · obtain ⟨hne, hd⟩ := h
      subst hd
      rw [lmethodLoop_step_original hne]
      have hr := lmScanAt_range he hn hc
      apply ih _ _ _ _ (Nat.le_trans hl (Nat.le_max_left _ _)) hr.1 hr.2.1
      simp only [Bool.false_eq_true, if_false] at hf
      by_cases hle : cur ≤ lmScanAt errs n cutoff
      · simp only [hle, decide_true, if_true]; omega
      · simp only [hle, decide_false, Bool.false_eq_true, if_false]; omega
    · rw [lmethodLoop_stop h]
      exact ⟨cur, rfl, h2, h3⟩

/-- Potential of the `adjusted` loop: `max last cur`, plus one if `cur` is the larger (the two
differ while the loop runs).  In this mode the cutoff is a function of the state,
`max limit ((cur + last) / 2)`; the very first round (cutoff `n`, `last = -1`) is not of that form and
is peeled off by the caller. -/
def lmPhi (last cur : Nat) : Nat := max last (cur + 1)

theorem lmPhi_step {limit last cur s : Nat} (h : s + 2 ≤ max limit ((cur + last) / 2))
    (hM : ¬ (cur ≤ limit ∧ last ≤ limit)) :
    lmPhi cur s < lmPhi last cur ∧ limit < lmPhi last cur := by
  unfold lmPhi
  rcases Std.le_max.mp h with h | h <;> omega

/-- with `cur ≤ limit` and the cutoff at `limit` the next cutoff is `limit` again, the scan repeats
itself and the loop stops within three rounds -/
theorem lmethodLoop_adjusted_clamped {errs : Nat → List Rat} (he : ∀ len, (errs len).length = len - 4)
    {n limit : Nat} (hn : 5 ≤ n) (hl : 4 ≤ limit) (f last cur : Nat)
    (hc : cur ≤ limit) (h2 : 2 ≤ cur) (h3 : cur + 3 ≤ n) (hf : 3 ≤ f) :
    ∃ k, lmethodLoop errs .adjusted n limit f (last : Int) cur limit false = some k ∧
      2 ≤ k ∧ k + 3 ≤ n := by
  obtain ⟨f, rfl⟩ : ∃ g, f = g + 3 := Nat.exists_eq_add_of_le' hf
  have hr := lmScanAt_range he hn hl
  by_cases h : cur = last
  · rw [lmethodLoop_stop fun hh => hh.1 (congrArg _ h)]
    exact ⟨cur, rfl, h2, h3⟩
  · rw [lmethodLoop_step_adjusted (mt Int.natCast_inj.mp h),
      Nat.max_eq_left (Nat.div_le_of_le_mul (by omega))]
    by_cases h' : lmScanAt errs n limit = cur
    · rw [lmethodLoop_stop fun hh => hh.1 (congrArg _ h')]
      exact ⟨_, rfl, hr.1, hr.2.1⟩
    · rw [lmethodLoop_step_adjusted (mt Int.natCast_inj.mp h'), lmethodLoop_stop fun hh => hh.1 rfl]
      exact ⟨_, rfl, hr.1, hr.2.1⟩

theorem lmethodLoop_adjusted_total {errs : Nat → List Rat} (he : ∀ len, (errs len).length = len - 4)
    {n limit : Nat} (hn : 5 ≤ n) (hl : 4 ≤ limit) (f last cur : Nat) (h2 : 2 ≤ cur)
    (h3 : cur + 3 ≤ n) (hf : (lmPhi last cur - limit) + 3 ≤ f) :
    ∃ k, lmethodLoop errs .adjusted n limit f (last : Int) cur
      (max limit ((cur + last) / 2)) false = some k ∧ 2 ≤ k ∧ k + 3 ≤ n := by
  induction f generalizing last cur with
  | zero => omega
  | succ f ih =>
    by_cases heq : cur = last
    · rw [lmethodLoop_stop fun hh => hh.1 (congrArg _ heq)]
      exact ⟨cur, rfl, h2, h3⟩
    · by_cases hM : cur ≤ limit ∧ last ≤ limit
      · rw [Nat.max_eq_left (by omega)]
        exact lmethodLoop_adjusted_clamped he hn hl (f + 1) last cur hM.1 h2 h3
          (Nat.le_trans (Nat.le_add_left 3 _) hf)
      · rw [lmethodLoop_step_adjusted (mt Int.natCast_inj.mp heq)]
        obtain ⟨hs2, hs3, hcut⟩ :=
          lmScanAt_range he hn (Nat.le_trans hl (Nat.le_max_left limit ((cur + last) / 2)))
        have hs := lmPhi_step hcut hM
        clear hcut -- `omega` would split on its `max` and `/`
        exact ih cur (lmScanAt errs n _) hs2 hs3 (by omega)

/-! A strict unique extremum of the criterion is what the detector returns.  The first is the form for a
list; the next three take the criterion as a function of the point (split) index, which is how the exact
criteria of `Model/Elbow.lean` are given. -/

theorem dfdtInner_eq_of_unique {d : List Rat} {k : Nat} (hk1 : 1 ≤ k) (hk2 : k + 1 < d.length)
    (hmin : ∀ j, 1 ≤ j → j + 1 < d.length → j ≠ k → d[k]?.getD 0 < d[j]?.getD 0) :
    dfdtInner d = k :=
  interior_argmin_eq_of_unique hk1 hk2 hmin

theorem curvKnee_eq_of_unique (f : Nat → Rat) {n c : Nat} (hc1 : 1 ≤ c) (hc2 : c + 1 < n)
    (hmax : ∀ j, 1 ≤ j → j + 1 < n → j ≠ c → f j < f c) :
    curvKnee ((List.range n).map f) = c := by
  have hlen : ((List.range n).map f).length = n := by simp
  refine interior_argmax_eq_of_unique hc1 (hlen.symm ▸ hc2) fun j h1 h2 hjc => ?_
  rw [hlen] at h2
  rw [getD_range_map (Nat.lt_of_succ_lt h2), getD_range_map (Nat.lt_of_succ_lt hc2)]
  exact hmax j h1 h2 hjc

/-- `f i` belongs to the triple centred at point `i`; the array starts at point `1`.  `hpos` puts the
two `0` pads below `f c`. -/
theorem mengerKnee_eq_of_unique (f : Nat → Rat) {m c : Nat} (hc1 : 1 ≤ c) (hcm : c ≤ m)
    (hpos : 0 < f c) (hmax : ∀ i, 1 ≤ i → i ≤ m → i ≠ c → f i < f c) :
    mengerKnee ((List.range m).map fun k => f (k + 1)) = c := by
  have hlen : ((List.range m).map fun k => f (k + 1)).length = m := by simp
  have hget : ∀ i, 1 ≤ i → i ≤ m →
      ((0 : Rat) :: ((List.range m).map fun k => f (k + 1)) ++ [0])[i]?.getD 0 = f i :=
    fun i h1 h2 => by
      obtain ⟨j, rfl⟩ : ∃ j, i = j + 1 := Nat.exists_eq_add_of_le' h1
      rw [padded_succ _ j (hlen.symm ▸ h2), getD_range_map h2]
  generalize (List.range m).map (fun k => f (k + 1)) = cs at hlen hget ⊢
  refine argmaxIdx_eq_of_unique (by rw [padded_length]; omega) fun j hj hjc => ?_
  rw [padded_length, hlen] at hj
  rw [hget c hc1 hcm]
  rcases Nat.eq_zero_or_pos j with rfl | h0
  · rwa [padded_zero]
  · rcases Nat.lt_or_ge j (m + 1) with h | h
    · rw [hget j h0 (by omega)]
      exact hmax j h0 (by omega) hjc
    · rwa [show j = cs.length + 1 by omega, padded_last]

/-- `f i` is the error of the split `i`; the array starts at the split `2` -/
theorem lmethodScan_eq_of_unique (f : Nat → Rat) {m c : Nat} (hc2 : 2 ≤ c) (hcm : c < m + 2)
    (hmin : ∀ i, 2 ≤ i → i < m + 2 → i ≠ c → f c < f i) :
    lmethodScan ((List.range m).map fun k => f (k + 2)) = c := by
  obtain ⟨d, rfl⟩ : ∃ d, c = d + 2 := Nat.exists_eq_add_of_le' hc2
  have hd : d < m := Nat.lt_of_add_lt_add_right hcm
  rw [lmethodScan, argminIdx_eq_of_unique (k := d) (by simpa using hd), Nat.add_comm]
  intro j hj hjc
  simp only [List.length_map, List.length_range] at hj
  rw [getD_range_map hd, getD_range_map hj]
  exact hmin _ (by omega) (by omega) (by omega)

/-! A second round that repeats the knee of the first stops the loop.  The fuel has to show one successor
per round peeled: `n = m + 2` does it for the DFDT fuel `n + 1`, the equation `e` for the L-method's `n + 8`. -/

/-- the `dfdt.knee` loop when the round on the whole array and the round on the tail from `⌈k/2⌉`
agree on `k`: the knee did not move right, so the loop stops.  `hn` is the loop guard
`n - cutoff > 2` of the second round, at the cutoff `⌈k/2⌉`. -/
theorem dfdtKnee_of_two_rounds (diffs : Nat → List Rat) (n k : Nat) (hk : 0 < k)
    (hn : (k + 1) / 2 + 2 < n) (h1 : dfdtInner (diffs 0) = k)
    (h2 : dfdtInner (diffs ((k + 1) / 2)) + (k + 1) / 2 = k) : dfdtKnee diffs n = k := by
  have h2n : 2 < n := Nat.lt_of_le_of_lt (Nat.le_add_left 2 _) hn
  obtain ⟨m, rfl⟩ : ∃ m, n = m + 2 := Nat.exists_eq_add_of_le' (Nat.le_of_lt h2n)
  rw [dfdtKnee, dfdtLoop_step ⟨by decide, h2n⟩, h1, Nat.add_zero k,
    dfdtLoop_step ⟨by exact_mod_cast hk, Nat.lt_sub_iff_add_lt'.mpr hn⟩, h2,
    dfdtLoop_stop fun h => Int.lt_irrefl _ h.1]

/-- Three rounds are peeled off the fuel `n + 8`.  `none`: one scan, then `done`.  `original`: round 1
finds `c`, the cutoff `max limit (min (2c) n)` keeps `c + 3` points, round 2 finds `c` again, which
sets `done`.  `adjusted`: round 1 finds `c`, the cutoff `max limit ((c + n) / 2)` keeps `c + 3` points,
round 2 finds `c` again and the loop condition `current ≠ last` fails. -/
theorem lmethodKnee_of_scan (errs : Nat → List Rat) (mode : Refinement) (n limit c : Nat)
    (hc : 2 ≤ c) (hn : c + 4 ≤ n)
    (hscan : ∀ cutoff, c + 2 ≤ cutoff → lmScanAt errs n cutoff = c) :
    lmethodKnee errs mode n limit = some c := by
  unfold lmethodKnee
  have e : n + 8 = ((n + 5 + 1) + 1) + 1 := by omega
  have hd : decide (n ≤ c) = false := by simp; omega
  cases mode with
  | none =>
    rw [e, lmethodLoop_step_none (by omega),
      lmethodLoop_stop (by simp), hscan n (by omega)]
  | original =>
    rw [e, lmethodLoop_step_original (by omega), hscan n (by omega), hd,
      lmethodLoop_step_original (by omega),
      hscan _ (Nat.le_trans (Nat.le_min.mpr ⟨by omega, by omega⟩) (Nat.le_max_right _ _)),
      lmethodLoop_stop (by simp)]
  | adjusted =>
    rw [e, lmethodLoop_step_adjusted (by omega), hscan n (by omega),
      lmethodLoop_step_adjusted (by omega),
      hscan _ (Nat.le_trans ((Nat.le_div_iff_mul_le Nat.two_pos).mpr (by omega)) (Nat.le_max_right _ _)),
      lmethodLoop_stop (by simp)]

end Knee
