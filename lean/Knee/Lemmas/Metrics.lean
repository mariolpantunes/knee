import Knee.Model.Metrics
import Knee.Lemmas.AbsMaxMin
import Mathlib.Tactic.Ring
import Mathlib.Tactic.Linarith
import Mathlib.Algebra.Order.BigOperators.Group.List
/-! What the proofs about `Model/Metrics.lean` share: sums of `zipWith` / `map` (instances of Mathlib's `List.sum_nonneg`,
`List.sum_eq_zero`, `List.sum_le_card_nsmul`), `meanQ`, the end-point fit as a chord, Cauchy–Schwarz for lists, and the
residuals of a line, also for curves given as index functions (the L-method and Kneedle models). -/
namespace Knee

theorem epsM_pos : 0 < epsM := by unfold epsM; norm_num

section
variable {α β γ : Type}

theorem forall_mem_zipWith {f : α → β → γ} {P : γ → Prop} {l : List α} {l' : List β}
    (h : ∀ a ∈ l, ∀ b ∈ l', P (f a b)) : ∀ v ∈ List.zipWith f l l', P v := by
  rw [← List.map_uncurry_zip_eq_zipWith]
  exact List.forall_mem_map.2 fun p hp => h _ (List.of_mem_zip hp).1 _ (List.of_mem_zip hp).2

theorem zipWith_sum_nonneg {f : α → β → Rat} (hf : ∀ a b, 0 ≤ f a b) (l : List α) (l' : List β) :
    0 ≤ (List.zipWith f l l').sum :=
  List.sum_nonneg (forall_mem_zipWith fun a _ b _ => hf a b)

theorem zipWith_sum_le {f : α → β → Rat} {c : Rat} (hf : ∀ a b, f a b ≤ c) (l : List α)
    (l' : List β) : (List.zipWith f l l').sum ≤ c * ((List.zipWith f l l').length : Rat) := by
  rw [mul_comm, ← nsmul_eq_mul]
  exact List.sum_le_card_nsmul _ c (forall_mem_zipWith fun a _ b _ => hf a b)

theorem zipWith_sum_eq_zero {f : α → β → Rat} (hf : ∀ a b, f a b = 0) (l : List α) (l' : List β) :
    (List.zipWith f l l').sum = 0 :=
  List.sum_eq_zero (forall_mem_zipWith fun a _ b _ => hf a b)

theorem zipWith_self_sum_zero {f : α → α → Rat} (hf : ∀ a, f a a = 0) (l : List α) :
    (List.zipWith f l l).sum = 0 := by
  rw [List.zipWith_self]
  exact List.sum_eq_zero (List.forall_mem_map.2 fun a _ => hf a)

theorem sum_map_nonneg {f : α → Rat} {l : List α} (h : ∀ a ∈ l, 0 ≤ f a) : 0 ≤ (l.map f).sum :=
  List.sum_nonneg (List.forall_mem_map.2 h)

end

theorem sum_pos_of_mem : ∀ l : List Rat, (∀ v ∈ l, 0 ≤ v) → (∃ v ∈ l, 0 < v) → 0 < l.sum := by
  intro l h ⟨v, hv, hpos⟩
  exact hpos.trans_le (List.single_le_sum h v hv)

theorem sum_map_sub_const (c : Rat) (l : List Rat) :
    (l.map fun a => a - c).sum = l.sum - (l.length : Rat) * c := by
  simp only [sub_eq_add_neg]
  rw [List.sum_map_add, List.map_id', List.map_const', List.sum_replicate, nsmul_eq_mul, mul_neg]

theorem sum_map_affineQ (s c : Rat) (l : List Rat) :
    (l.map fun v => s * v + c).sum = s * l.sum + (l.length : Rat) * c := by
  rw [List.sum_map_add, List.map_const', List.sum_replicate, nsmul_eq_mul]
  exact congrArg (· + _) (List.sum_hom l (AddMonoidHom.mulLeft s))

theorem sum_map_map (f f' g : Rat → Rat) (k : Rat) (l : List Rat) (h : ∀ a ∈ l, f' (g a) = k * f a) :
    ((l.map g).map f').sum = k * (l.map f).sum := by
  rw [List.map_map]
  exact (congrArg List.sum (List.map_congr_left h)).trans
    (List.sum_map_hom l f (AddMonoidHom.mulLeft k))

theorem sum_zipWith_map (f f' : Rat → Rat → Rat) (gA gB : Rat → Rat) (k : Rat) (y yh : List Rat)
    (h : ∀ a ∈ y, ∀ b ∈ yh, f' (gA a) (gB b) = k * f a b) :
    (List.zipWith f' (y.map gA) (yh.map gB)).sum = k * (List.zipWith f y yh).sum := by
  rw [List.zipWith_map, ← List.map_uncurry_zip_eq_zipWith, ← List.map_uncurry_zip_eq_zipWith]
  exact (congrArg List.sum (List.map_congr_left fun p hp =>
      h p.1 (List.of_mem_zip hp).1 p.2 (List.of_mem_zip hp).2)).trans
    (List.sum_map_hom _ _ (AddMonoidHom.mulLeft k))

theorem length_zipWith_map (f f' : Rat → Rat → Rat) (gA gB : Rat → Rat) (y yh : List Rat) :
    (List.zipWith f' (y.map gA) (yh.map gB)).length = (List.zipWith f y yh).length := by
  simp only [List.length_zipWith, List.length_map]

theorem meanQ_nil : meanQ [] = 0 := by simp [meanQ]

theorem meanQ_nonneg (l : List Rat) (h : 0 ≤ l.sum) : 0 ≤ meanQ l := by
  unfold meanQ
  exact div_nonneg h (Nat.cast_nonneg _)

theorem meanQ_eq_zero (l : List Rat) (h : l.sum = 0) : meanQ l = 0 := by
  unfold meanQ; rw [h]; simp

theorem meanQ_mul_length (l : List Rat) : meanQ l * (l.length : Rat) = l.sum := by
  unfold meanQ
  cases l with
  | nil => simp
  | cons a t => exact div_mul_cancel₀ _ (Nat.cast_ne_zero.2 (Nat.succ_ne_zero _))

/-- `hc` serves the empty list only, whose mean is `0` -/
theorem meanQ_le (l : List Rat) (c : Rat) (hc : 0 ≤ c) (h : l.sum ≤ c * (l.length : Rat)) :
    meanQ l ≤ c := by
  unfold meanQ
  rcases Nat.eq_zero_or_pos l.length with h0 | hpos
  · rw [h0, Nat.cast_zero, div_zero]; exact hc
  · have hp : (0 : Rat) < (l.length : Rat) := Nat.cast_pos.2 hpos
    rw [div_le_iff₀ hp]; exact h

theorem meanQ_pos {l : List Rat} (h : 0 < l.sum) : 0 < meanQ l := by
  have hl : l ≠ [] := by rintro rfl; exact lt_irrefl _ h
  exact div_pos h (Nat.cast_pos.2 (List.length_pos_iff.2 hl))

theorem meanQ_unit {l : List Rat} (h : ∀ v ∈ l, 0 ≤ v ∧ v ≤ 1) : 0 ≤ meanQ l ∧ meanQ l ≤ 1 :=
  ⟨meanQ_nonneg l (List.sum_nonneg fun v hv => (h v hv).1),
   meanQ_le l 1 zero_le_one (by simpa using List.sum_le_card_nsmul l 1 fun v hv => (h v hv).2)⟩

theorem sum_centered (l : List Rat) : (l.map fun a => a - meanQ l).sum = 0 := by
  rw [sum_map_sub_const, mul_comm, meanQ_mul_length, sub_self]

theorem meanQ_zipWith_nonneg {f : Rat → Rat → Rat} (hf : ∀ a b, 0 ≤ f a b) (y yh : List Rat) :
    0 ≤ meanQ (List.zipWith f y yh) :=
  meanQ_nonneg _ (zipWith_sum_nonneg hf y yh)

theorem meanQ_zipWith_self {f : Rat → Rat → Rat} (hf : ∀ a, f a a = 0) (y : List Rat) :
    meanQ (List.zipWith f y y) = 0 :=
  meanQ_eq_zero _ (zipWith_self_sum_zero hf y)

theorem meanQ_affine (s c : Rat) (l : List Rat) (hl : l ≠ []) :
    meanQ (l.map fun v => s * v + c) = s * meanQ l + c := by
  have hn : (l.length : Rat) ≠ 0 := by
    have : 0 < l.length := List.length_pos_iff.2 hl
    positivity
  simp only [meanQ, sum_map_affineQ, List.length_map]
  rw [add_div, mul_div_assoc, mul_div_cancel_left₀ _ hn]

theorem meanQ_zipWith_map (f f' : Rat → Rat → Rat) (g : Rat → Rat)
    (h : ∀ a b, f' (g a) (g b) = f a b) (y yh : List Rat) :
    meanQ (List.zipWith f' (y.map g) (yh.map g)) = meanQ (List.zipWith f y yh) := by
  unfold meanQ
  rw [sum_zipWith_map f f' g g 1 y yh (fun a _ b _ => by rw [h, one_mul]), one_mul,
    length_zipWith_map f]

theorem smape_den_pos (a b : Rat) : 0 < rabs a + rabs b + epsM :=
  add_pos_of_nonneg_of_pos (add_nonneg (rabs_nonneg a) (rabs_nonneg b)) epsM_pos

theorem rmspe_term_nonneg (a b : Rat) :
    0 ≤ ((a - b) / (a + epsM)) * ((a - b) / (a + epsM)) := mul_self_nonneg _

theorem smape_term_nonneg (a b : Rat) : 0 ≤ 2 * rabs (b - a) / (rabs a + rabs b + epsM) :=
  div_nonneg (mul_nonneg zero_le_two (rabs_nonneg _)) (smape_den_pos a b).le

theorem smape_term_le_two (a b : Rat) : 2 * rabs (b - a) / (rabs a + rabs b + epsM) ≤ 2 :=
  (div_le_iff₀ (smape_den_pos a b)).2
    (mul_le_mul_of_nonneg_left (le_add_of_le_of_nonneg (rabs_sub_le a b) epsM_pos.le) zero_le_two)

/-! The end-point fit: the ends of a list are read as the model reads them, `x.head?.getD 0` and
`x.getLast?.getD 0`. -/

/-- no hypothesis: Lean's `a / 0 = 0` is the slope of the degenerate fit `(0, 0)` -/
theorem fitQ_slope (x y : List Rat) :
    (fitQ x y).2 = (y.head?.getD 0 - y.getLast?.getD 0) / (x.head?.getD 0 - x.getLast?.getD 0) := by
  simp only [fitQ]
  split_ifs with h
  · rfl
  · rw [not_not.1 h, div_zero]

theorem r2Q_of_ne {y : List Rat} (h : tssQ y ≠ 0) (yh : List Rat) :
    r2Q y yh = 1 - rssQ y yh / tssQ y := if_neg h

theorem fitQ_of_eq {x : List Rat} (y : List Rat) (h : x.head?.getD 0 = x.getLast?.getD 0) :
    fitQ x y = (0, 0) := by
  simp [fitQ, h]

theorem fitQ_of_ne {x : List Rat} (y : List Rat) (h : x.head?.getD 0 ≠ x.getLast?.getD 0) :
    fitQ x y = (y.head?.getD 0
        - (y.head?.getD 0 - y.getLast?.getD 0) / (x.head?.getD 0 - x.getLast?.getD 0) * x.head?.getD 0,
      (y.head?.getD 0 - y.getLast?.getD 0) / (x.head?.getD 0 - x.getLast?.getD 0)) := by
  simp only [fitQ]
  exact if_pos (sub_ne_zero.2 h)

/-- the end-point line is the chord: `linear_transform(x, *linear_fit(x, y))` point by point -/
theorem lineQ_fitQ {x : List Rat} (y : List Rat) (h : x.head?.getD 0 ≠ x.getLast?.getD 0) :
    lineQ x (fitQ x y) = x.map fun v => y.head?.getD 0
      + (y.getLast?.getD 0 - y.head?.getD 0) * (v - x.head?.getD 0)
        / (x.getLast?.getD 0 - x.head?.getD 0) := by
  rw [fitQ_of_ne y h]
  refine List.map_congr_left fun v _ => ?_
  -- the slope with both differences written the other way round; then no division is left to do
  rw [← neg_sub (y.getLast?.getD 0), ← neg_sub (x.getLast?.getD 0), neg_div_neg_eq]
  ring

/-- The step of `cauchy_schwarz_list`.  For `A > 0`:
`A·(A b² + B a² − 2sab) = (Ab − sa)² + (AB − s²) a² ≥ 0`; for `A = 0` the hypothesis forces `s = 0`. -/
theorem two_mul_le_of_sq_le (s a b A B : Rat) (hA : 0 ≤ A) (hB : 0 ≤ B) (hs : s * s ≤ A * B) :
    2 * s * a * b ≤ A * (b * b) + B * (a * a) := by
  rcases hA.eq_or_lt with rfl | hA
  · have : s = 0 := mul_self_eq_zero.1 (le_antisymm (by simpa using hs) (mul_self_nonneg s))
    rw [this, mul_zero, zero_mul, zero_mul, zero_mul, zero_add]
    exact mul_nonneg hB (mul_self_nonneg a)
  · have key : A * (A * (b * b) + B * (a * a) - 2 * s * a * b)
        = (A * b - s * a) * (A * b - s * a) + (A * B - s * s) * (a * a) := by ring
    have h : 0 ≤ A * (A * (b * b) + B * (a * a) - 2 * s * a * b) :=
      key ▸ add_nonneg (mul_self_nonneg _) (mul_nonneg (sub_nonneg.2 hs) (mul_self_nonneg a))
    exact sub_nonneg.1 (nonneg_of_mul_nonneg_right h hA)

theorem cauchy_schwarz_list (l1 l2 : List Rat) :
    (List.zipWith (fun a b => a * b) l1 l2).sum * (List.zipWith (fun a b => a * b) l1 l2).sum
      ≤ (l1.map fun a => a * a).sum * (l2.map fun b => b * b).sum := by
  have hA (l : List Rat) : 0 ≤ (l.map fun a => a * a).sum := sum_map_nonneg fun a _ => mul_self_nonneg a
  fun_induction List.zipWith (fun a b : Rat => a * b) l1 l2 with
  | case1 a l1 b l2 ih =>
    simp only [List.sum_cons, List.map_cons]
    have := two_mul_le_of_sq_le _ a b _ _ (hA l1) (hA l2) ih
    -- expanded, `a²b²` cancels and what is left is `ih` plus `this`
    linarith
  | case2 l1 l2 _ =>
    rw [List.sum_nil, mul_zero]
    exact mul_nonneg (hA l1) (hA l2)

theorem cauchy_schwarz_centered (mx my : Rat) (x y : List Rat) :
    (List.zipWith (fun a b => (a - mx) * (b - my)) x y).sum
        * (List.zipWith (fun a b => (a - mx) * (b - my)) x y).sum
      ≤ (x.map fun a => (a - mx) * (a - mx)).sum * (y.map fun b => (b - my) * (b - my)).sum := by
  have hcs := cauchy_schwarz_list (x.map fun a => a - mx) (y.map fun b => b - my)
  simpa only [List.zipWith_map, List.map_map, Function.comp_def] using hcs

theorem eq_meanQ_of_tssQ_eq_zero {y : List Rat} (ht : tssQ y = 0) : ∀ a ∈ y, a = meanQ y := fun a ha =>
  sub_eq_zero.1 (mul_self_eq_zero.1 (List.all_zero_of_le_zero_le_of_sum_eq_zero
    (fun _ hx => by obtain ⟨b, -, rfl⟩ := List.mem_map.1 hx; exact mul_self_nonneg _) ht
    (List.mem_map.2 ⟨a, ha, rfl⟩)))

theorem rssQ_const {c : Rat} {y yh : List Rat} (hy : ∀ a ∈ y, a = c) (hyh : ∀ b ∈ yh, b = c) : rssQ y yh = 0 :=
  List.sum_eq_zero (forall_mem_zipWith fun a ha b hb => by rw [hy a ha, hyh b hb, sub_self, mul_zero])

theorem rss_fit_of_tss_zero (x y : List Rat) (ht : tssQ y = 0) (h : x.head?.getD 0 ≠ x.getLast?.getD 0) :
    rssQ y (lineQ x (fitQ x y)) = 0 := by
  have hall := eq_meanQ_of_tssQ_eq_zero ht
  by_cases hy : y = []
  · subst hy; simp [rssQ]
  -- both ends of `y` are the mean, so the fitted line is the constant `meanQ y`
  have h0 : y.head?.getD 0 = meanQ y := by rw [List.head?_eq_some_head hy]; exact hall _ (List.head_mem hy)
  have hl : y.getLast?.getD 0 = meanQ y := by rw [List.getLast?_eq_some_getLast hy]; exact hall _ (List.getLast_mem hy)
  have hfit : fitQ x y = (meanQ y, 0) := by simp [fitQ, h0, hl, sub_ne_zero.2 h]
  rw [hfit]
  exact rssQ_const hall fun b hb => by obtain ⟨v, -, rfl⟩ := List.mem_map.1 hb; simp

/-- `linear_fit.linear_residuals(x, y, coef)` -/
theorem rssQ_lineQ (x y : List Rat) (c : Rat × Rat) : rssQ y (lineQ x c)
    = (List.zipWith (fun a v => (a - (v * c.2 + c.1)) * (a - (v * c.2 + c.1))) y x).sum := by
  unfold rssQ lineQ
  rw [List.zipWith_map_right]

theorem mseQ_eq_rssQ_div (y yh : List Rat) :
    mseQ y yh = rssQ y yh / ((List.zipWith (fun a b => (a - b) * (a - b)) y yh).length : Rat) := rfl

/-! The same for curves given as index functions over a list of indices, the form of the L-method model. -/

theorem rss_line_map (x y : Nat → Rat) (l : Rat × Rat) (L : List Nat) :
    rssQ (L.map y) (lineQ (L.map x) l) =
      (L.map fun k => (y k - (x k * l.2 + l.1)) * (y k - (x k * l.2 + l.1))).sum := by
  rw [rssQ_lineQ, List.zipWith_map, List.zipWith_self]

theorem rss_line_zero (x y : Nat → Rat) (l : Rat × Rat) (L : List Nat)
    (hL : ∀ k ∈ L, y k = x k * l.2 + l.1) : rssQ (L.map y) (lineQ (L.map x) l) = 0 := by
  rw [rss_line_map]
  exact List.sum_eq_zero (List.forall_mem_map.2 fun k hk => by rw [hL k hk, sub_self, mul_zero])

theorem rss_line_pos (x y : Nat → Rat) (l : Rat × Rat) (L : List Nat) {k : Nat} (hk : k ∈ L)
    (hne : y k ≠ x k * l.2 + l.1) : 0 < rssQ (L.map y) (lineQ (L.map x) l) := by
  rw [rss_line_map]
  exact sum_pos_of_mem _ (List.forall_mem_map.2 fun _ _ => mul_self_nonneg _)
    ⟨_, List.mem_map.2 ⟨k, hk, rfl⟩, mul_self_pos.mpr (sub_ne_zero.mpr hne)⟩

theorem fitQ_map (x y : Nat → Rat) (L : List Nat) {i0 il : Nat}
    (hh : L.head? = some i0) (hl : L.getLast? = some il) (hne : x i0 ≠ x il) :
    fitQ (L.map x) (L.map y) =
      (y i0 - (y i0 - y il) / (x i0 - x il) * x i0, (y i0 - y il) / (x i0 - x il)) := by
  have h0 : ∀ f : Nat → Rat, (L.map f).head?.getD 0 = f i0 := fun f => by simp [hh]
  have h1 : ∀ f : Nat → Rat, (L.map f).getLast?.getD 0 = f il := fun f => by simp [hl]
  rw [fitQ_of_ne _ (by rw [h0, h1]; exact hne), h0 x, h1 x, h0 y, h1 y]

end Knee
