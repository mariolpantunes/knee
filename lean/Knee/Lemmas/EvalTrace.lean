import Knee.Model.EvalTrace
import Knee.Lemmas.Pairs
import Knee.Lemmas.ListMinMax
import Knee.Lemmas.Invariance
import Mathlib.Algebra.Order.Field.Basic
/-! What `Props/X03.lean` uses about `Model/EvalTrace.lean`.  Two identities hold by definition and are used without a rewrite:
`gapsOf knees` is `chainFrom 0 knees` (and `lastKnee knees` is `chainLast 0 knees`), so every `chainFrom` lemma applies to
the gaps; `accNormX v knees` is `divAll (gapAbs v knees) (extent v)` and `accNormSlopes xs ys knees` is
`divAll (gapSlopes xs ys knees) (listMax (gapSlopes xs ys knees))`, so every `divAll` lemma applies to them. -/
namespace Knee

/-- `(a, k₀), (k₀, k₁), …`; the start is a variable so that an induction over `ks` can move it along -/
def chainFrom (a : Nat) (ks : List Nat) : List (Nat × Nat) := (a :: ks).zip ks

theorem chainFrom_nil (a : Nat) : chainFrom a [] = [] := rfl
theorem chainFrom_cons (a k : Nat) (ks : List Nat) : chainFrom a (k :: ks) = (a, k) :: chainFrom k ks := rfl

theorem chainFrom_length (a : Nat) (ks : List Nat) : (chainFrom a ks).length = ks.length := length_zip_tail (a :: ks)

theorem gapsOf_length (knees : List Nat) : (gapsOf knees).length = knees.length := chainFrom_length 0 knees

def chainLast (a : Nat) (ks : List Nat) : Nat := ks.getLast?.getD a

theorem chainLast_cons (a k : Nat) (ks : List Nat) : chainLast a (k :: ks) = chainLast k ks := by
  rw [chainLast, List.getLast?_cons, Option.getD_some, chainLast]

/-- the last knee (`knees[-1]`; `0` for an empty list) -/
def lastKnee (knees : List Nat) : Nat := knees.getLast?.getD 0

theorem lastKnee_mem (knees : List Nat) (h : knees ≠ []) : lastKnee knees ∈ knees := by
  unfold lastKnee
  rw [List.getLast?_eq_some_getLast h]
  exact List.getLast_mem h

/-- `hd` is `sub_add_sub_cancel'` for `d i j = f j - f i` and `sub_add_sub_cancel` for `d i j = f i - f j` -/
theorem chain_sum_telescope {d : Nat → Nat → Rat} (hd : ∀ i j k, d i j + d j k = d i k) : ∀ (ks : List Nat) (a : Nat),
    ((chainFrom a ks).map fun g => d g.1 g.2).sum = d a (chainLast a ks)
  | [], a => (add_eq_left.1 (hd a a a)).symm   -- `0 = d a a`, from `d a a + d a a = d a a`
  | k :: ks, a => by
    rw [chainFrom_cons, List.map_cons, List.sum_cons, chain_sum_telescope hd ks k, chainLast_cons, hd]

theorem gapsOf_sum_sub (f : Nat → Rat) (knees : List Nat) :
    ((gapsOf knees).map fun g => f g.2 - f g.1).sum = f (lastKnee knees) - f 0 :=
  chain_sum_telescope (d := fun i j => f j - f i) (fun _ _ _ => sub_add_sub_cancel' _ _ _) knees 0

theorem gapsOf_sum_sub_rev (f : Nat → Rat) (knees : List Nat) :
    ((gapsOf knees).map fun g => f g.1 - f g.2).sum = f 0 - f (lastKnee knees) :=
  chain_sum_telescope (d := fun i j => f i - f j) (fun _ _ _ => sub_add_sub_cancel _ _ _) knees 0

theorem gapsOf_le {knees : List Nat} (h : knees.Pairwise (· ≤ ·)) : ∀ g ∈ gapsOf knees, g.1 ≤ g.2 :=
  zip_tail_rel (l := 0 :: knees) (List.pairwise_cons.2 ⟨fun _ _ => Nat.zero_le _, h⟩)

theorem chainFrom_rel {S : Nat → Nat → Prop} {R : Rat → Rat → Prop} {f : Nat → Rat} {n a : Nat} {ks : List Nat}
    (hf : ∀ i j, S i j → j < n → R (f i) (f j)) (hp : (a :: ks).Pairwise S) (hn : ∀ k ∈ ks, k < n) :
    ∀ g ∈ chainFrom a ks, R (f g.1) (f g.2) :=
  fun g hg => hf _ _ (zip_tail_rel hp g hg) (hn _ (List.of_mem_zip hg).2)

theorem gapsOf_rel {R : Rat → Rat → Prop} {f : Nat → Rat} {n : Nat} {knees : List Nat}
    (hf : ∀ i j, i ≤ j → j < n → R (f i) (f j)) (hk : knees.Pairwise (· ≤ ·)) (hn : ∀ k ∈ knees, k < n) :
    ∀ g ∈ gapsOf knees, R (f g.1) (f g.2) :=
  chainFrom_rel hf (List.pairwise_cons.2 ⟨fun _ _ => Nat.zero_le _, hk⟩) hn

theorem ptAt_map (f : Rat → Rat) (v : List Rat) {i : Nat} (hi : i < v.length) : ptAt (v.map f) i = f (ptAt v i) := by
  unfold ptAt
  simp [List.getElem?_map, List.getElem?_eq_getElem hi]

theorem sliceQ_map (f : Rat → Rat) (v : List Rat) (l r : Nat) : sliceQ (v.map f) l r = (sliceQ v l r).map f := by
  unfold sliceQ
  rw [List.map_take, List.map_drop]

theorem sliceQ_length (v : List Rat) {l r : Nat} (hr : r < v.length) : (sliceQ v l r).length = r + 1 - l := by
  unfold sliceQ
  rw [List.length_take, List.length_drop]
  exact Nat.min_eq_left (Nat.sub_le_sub_right hr l)

theorem sliceQ_getElem? (v : List Rat) (l r i : Nat) (hi : i < r + 1 - l) : (sliceQ v l r)[i]? = v[l + i]? := by
  unfold sliceQ
  rw [List.getElem?_take_of_lt hi, List.getElem?_drop]

theorem sliceQ_ne_nil (v : List Rat) {l r : Nat} (hlr : l ≤ r) (hr : r < v.length) : sliceQ v l r ≠ [] :=
  List.ne_nil_of_length_pos (by rw [sliceQ_length v hr]; exact Nat.sub_pos_of_lt (Nat.lt_succ_of_le hlr))

theorem sliceQ_head (v : List Rat) {l r : Nat} (hlr : l ≤ r) : (sliceQ v l r).head?.getD 0 = ptAt v l := by
  rw [List.head?_eq_getElem?, sliceQ_getElem? v l r 0 (Nat.sub_pos_of_lt (Nat.lt_succ_of_le hlr))]; rfl

theorem sliceQ_getLast (v : List Rat) {l r : Nat} (hlr : l ≤ r) (hr : r < v.length) :
    (sliceQ v l r).getLast?.getD 0 = ptAt v r := by
  -- the slice has `r - l + 1` entries, its last one is `v[l + (r - l)]`
  have hlt : r - l < r + 1 - l := by rw [Nat.succ_sub hlr]; exact Nat.lt_succ_self _
  rw [List.getLast?_eq_getElem?, sliceQ_length v hr, Nat.succ_sub hlr, Nat.succ_sub_one, sliceQ_getElem? v l r _ hlt,
    Nat.add_sub_cancel' hlr, ptAt]

theorem sliceQ_full (v : List Rat) : sliceQ v 0 (v.length - 1) = v := by
  unfold sliceQ
  rw [List.drop_zero, Nat.sub_zero, List.take_of_length_le (Nat.le_add_of_sub_le (Nat.le_refl _))]

/-- no `≠` hypothesis: equal end abscissae give `0` on both sides (`fitQ_slope`) -/
theorem sliceQ_slope (xs ys : List Rat) {l r : Nat} (hlr : l ≤ r) (hrx : r < xs.length) (hry : r < ys.length) :
    (fitQ (sliceQ xs l r) (sliceQ ys l r)).2 = (ptAt ys l - ptAt ys r) / (ptAt xs l - ptAt xs r) := by
  rw [fitQ_slope, sliceQ_head xs hlr, sliceQ_getLast xs hlr hrx, sliceQ_head ys hlr, sliceQ_getLast ys hlr hry]

theorem divAll_eq_some {v l : List Rat} {d : Rat} (h : divAll v d = some l) : d ≠ 0 ∧ l = v.map fun a => a / d := by
  unfold divAll at h
  rw [Option.ite_none_left_eq_some, Option.some_inj] at h
  exact ⟨h.1, h.2.symm⟩

theorem divAll_eq_none_iff {v : List Rat} {d : Rat} : divAll v d = none ↔ d = 0 := by
  unfold divAll; split_ifs with h <;> simp [h]

theorem divAll_forall {v l : List Rat} {d : Rat} (h : divAll v d = some l) {P : Rat → Prop} :
    (∀ w ∈ l, P w) ↔ ∀ u ∈ v, P (u / d) := by
  obtain ⟨-, rfl⟩ := divAll_eq_some h
  exact List.forall_mem_map

theorem divAll_sum {v l : List Rat} {d : Rat} (h : divAll v d = some l) : l.sum = v.sum / d := by
  obtain ⟨-, rfl⟩ := divAll_eq_some h
  simp only [div_eq_mul_inv]
  exact (map_list_sum (AddMonoidHom.mulRight d⁻¹) v).symm

theorem divAll_length {v l : List Rat} {d : Rat} (h : divAll v d = some l) : l.length = v.length := by
  obtain ⟨-, rfl⟩ := divAll_eq_some h
  exact List.length_map _

theorem divAll_nonneg {v l : List Rat} {d : Rat} (h : divAll v d = some l) (hd : 0 ≤ d) (hv : ∀ u ∈ v, 0 ≤ u) :
    ∀ w ∈ l, 0 ≤ w :=
  (divAll_forall h).2 fun u hu => Rat.div_nonneg (hv u hu) hd

theorem divAll_le_one {v l : List Rat} {d : Rat} (h : divAll v d = some l) (hd : 0 ≤ d) (hv : ∀ u ∈ v, u ≤ d) :
    ∀ w ∈ l, w ≤ 1 :=
  (divAll_forall h).2 fun u hu => (div_le_one (lt_of_le_of_ne hd (Ne.symm (divAll_eq_some h).1))).2 (hv u hu)

theorem divAll_scale {k : Rat} (hk : k ≠ 0) (v : List Rat) (d : Rat) :
    divAll (v.map fun a => k * a) (k * d) = divAll v d := by
  unfold divAll
  by_cases hd : d = 0
  · simp [hd]
  · rw [if_neg hd, if_neg (mul_ne_zero hk hd), List.map_map]
    exact congrArg some (List.map_congr_left fun a _ => mul_div_mul_left _ _ hk)

theorem divAll_listMax_le_one {l r : List Rat} (h : divAll l (listMax l) = some r) (hm : 0 ≤ listMax l) :
    (∀ v ∈ r, v ≤ 1) ∧ (1 : Rat) ∈ r := by
  refine ⟨divAll_le_one h hm (le_listMax l), ?_⟩
  obtain ⟨h0, rfl⟩ := divAll_eq_some h
  exact List.mem_map.2 ⟨_, listMax_mem l (by rintro rfl; exact h0 rfl), div_self h0⟩

theorem mul3_nonneg {a b c : List Rat} (ha : ∀ v ∈ a, 0 ≤ v) (hb : ∀ v ∈ b, 0 ≤ v) (hc : ∀ v ∈ c, 0 ≤ v) :
    ∀ v ∈ mul3 a b c, 0 ≤ v :=
  forall_mem_zipWith fun _ hu _ hw =>
    Rat.mul_nonneg (forall_mem_zipWith (P := (0 ≤ ·)) (fun _ hu _ hw => Rat.mul_nonneg (ha _ hu) (hb _ hw)) _ hu) (hc _ hw)

theorem clip0_eq_max (c : Rat) : clip0 c = max c 0 := by
  unfold clip0
  split_ifs with h
  · exact (max_eq_right h.le).symm
  · exact (max_eq_left (not_lt.1 h)).symm

theorem kneesOk_iff (n : Nat) (knees : List Nat) :
    kneesOk n knees = true ↔ knees ≠ [] ∧ (∀ k ∈ knees, k < n) ∧ ∀ g ∈ gapsOf knees, g.1 ≤ g.2 := by
  unfold kneesOk
  simp only [Bool.and_eq_true, Bool.not_eq_true', List.isEmpty_eq_false_iff, List.all_eq_true, decide_eq_true_eq, and_assoc]

theorem kneesOk_gaps {n : Nat} {knees : List Nat} (h : kneesOk n knees = true) :
    knees ≠ [] ∧ ∀ g ∈ gapsOf knees, g.1 ≤ g.2 ∧ g.1 < n ∧ g.2 < n := by
  obtain ⟨hne, hn, hle⟩ := (kneesOk_iff n knees).1 h
  exact ⟨hne, fun g hg => ⟨hle g hg, lt_of_le_of_lt (hle g hg) (hn _ (List.of_mem_zip hg).2), hn _ (List.of_mem_zip hg).2⟩⟩

theorem gapAbs_nonneg (v : List Rat) (knees : List Nat) : ∀ u ∈ gapAbs v knees, 0 ≤ u :=
  List.forall_mem_map.2 fun _ _ => rabs_nonneg _

theorem gapAbs_length (v : List Rat) (knees : List Nat) : (gapAbs v knees).length = knees.length :=
  (List.length_map _).trans (gapsOf_length knees)

theorem gapSlopes_nonneg (xs ys : List Rat) (knees : List Nat) : ∀ v ∈ gapSlopes xs ys knees, 0 ≤ v :=
  List.forall_mem_map.2 fun _ _ => rabs_nonneg _

theorem gapAbs_sum_of_le {v : List Rat} {knees : List Nat} (h : ∀ g ∈ gapsOf knees, ptAt v g.1 ≤ ptAt v g.2) :
    (gapAbs v knees).sum = ptAt v (lastKnee knees) - ptAt v 0 := by
  rw [gapAbs, List.map_congr_left fun g hg => rabs_sub_of_le (h g hg), gapsOf_sum_sub (ptAt v)]

theorem gapAbs_sum_of_ge {v : List Rat} {knees : List Nat} (h : ∀ g ∈ gapsOf knees, ptAt v g.2 ≤ ptAt v g.1) :
    (gapAbs v knees).sum = ptAt v 0 - ptAt v (lastKnee knees) := by
  rw [gapAbs, List.map_congr_left fun g hg => rabs_of_nonneg ((Rat.le_iff_sub_nonneg _ _).1 (h g hg)), gapsOf_sum_sub_rev (ptAt v)]

theorem rabs_sub_le_extent {v : List Rat} (hv : ∀ i j, i ≤ j → j < v.length → ptAt v i ≤ ptAt v j) {i j : Nat}
    (hij : i ≤ j) (hj : j < v.length) : rabs (ptAt v i - ptAt v j) ≤ extent v := by
  have hl : v.length - 1 < v.length := Nat.sub_one_lt (Nat.ne_of_gt (Nat.zero_lt_of_lt hj))
  rw [extent, rabs_sub_of_le (hv i j hij hj), rabs_of_nonneg ((Rat.le_iff_sub_nonneg _ _).1 (hv 0 _ (Nat.zero_le _) hl))]
  exact sub_le_sub (hv j _ (Nat.le_sub_one_of_lt hj) hl) (hv 0 i (Nat.zero_le _) (Nat.lt_of_le_of_lt hij hj))

section
variable {coef : Nat → Nat → Rat} {xs ys : List Rat} {knees : List Nat}

theorem accTrace_eq_some_iff {r : AccTrace} :
    accTrace coef xs ys knees = some r ↔ kneesOk xs.length knees = true ∧
      r = { avgX := (accNormX xs knees).map meanQ, avgY := (accNormX ys knees).map meanQ,
            avgSlope := (accNormSlopes xs ys knees).map meanQ, avgCoef := (accNormCoefs coef knees).map meanQ,
            cost := accCost coef xs ys knees } := by
  unfold accTrace
  rw [Option.ite_some_none_eq_some, eq_comm (b := r)]

theorem accTrace_congr_parts {coef' : Nat → Nat → Rat} {xs' ys' : List Rat} (hlen : xs'.length = xs.length)
    (h : kneesOk xs.length knees = true → accNormX xs' knees = accNormX xs knees ∧ accNormX ys' knees = accNormX ys knees ∧
      accNormSlopes xs' ys' knees = accNormSlopes xs ys knees ∧ accNormCoefs coef' knees = accNormCoefs coef knees) :
    accTrace coef' xs' ys' knees = accTrace coef xs ys knees := by
  unfold accTrace
  rw [hlen]
  split_ifs with hok
  · obtain ⟨h1, h2, h3, h4⟩ := h hok
    simp only [accCost, accP, h1, h2, h3, h4]
  · rfl

theorem accNormCoefs_eq_none_iff : accNormCoefs coef knees = none ↔ listMax (gapCoefs coef knees) = 0 :=
  Option.map_eq_none_iff.trans divAll_eq_none_iff

theorem accP_eq_none_iff :
    accP coef xs ys knees = none ↔
      accNormX ys knees = none ∨ accNormSlopes xs ys knees = none ∨ accNormCoefs coef knees = none := by
  unfold accP
  cases accNormSlopes xs ys knees <;> cases accNormX ys knees <;> cases accNormCoefs coef knees <;> simp

theorem accP_eq_some {p : List Rat}
    (h : accP coef xs ys knees = some p) : ∃ a b c, accNormSlopes xs ys knees = some a ∧ accNormX ys knees = some b ∧
      accNormCoefs coef knees = some c ∧ p = mul3 a b c := by
  unfold accP at h
  split at h
  · rename_i a b c ha hb hc
    exact ⟨a, b, c, ha, hb, hc, (Option.some.inj h).symm⟩
  · cases h

theorem accCost_eq_none_iff :
    accCost coef xs ys knees = none ↔ accNormX xs knees = none ∨ accP coef xs ys knees = none ∨
      ∃ p, accP coef xs ys knees = some p ∧ meanQ p = 0 := by
  unfold accCost
  cases accNormX xs knees <;> cases accP coef xs ys knees <;> simp

theorem accCost_eq_some {c : Rat}
    (h : accCost coef xs ys knees = some c) : ∃ dx p, accNormX xs knees = some dx ∧ accP coef xs ys knees = some p ∧
      meanQ p ≠ 0 ∧ c = meanQ dx / meanQ p := by
  unfold accCost at h
  split at h
  · rename_i dx p hdx hp
    split_ifs at h with h0
    exact ⟨dx, p, hdx, hp, h0, (Option.some.inj h).symm⟩
  · cases h

theorem rankCornersQ_eq_some_iff {r : List Rat} :
    rankCornersQ xs knees = some r ↔
      (knees ≠ [] ∧ ∀ k ∈ knees, k < xs.length) ∧ r = (gapsOf knees).map fun g => ptAt xs g.2 - ptAt xs g.1 := by
  unfold rankCornersQ
  rw [Option.ite_some_none_eq_some, eq_comm (b := r)]
  simp only [Bool.and_eq_true, Bool.not_eq_true', List.isEmpty_eq_false_iff, List.all_eq_true, decide_eq_true_eq]

theorem angleArg_eq_some {m1 m2 a : Rat} (h : angleArg m1 m2 = some a) :
    1 + m1 * m2 ≠ 0 ∧ a = (m1 - m2) / (1 + m1 * m2) := by
  unfold angleArg at h
  rw [Option.ite_none_left_eq_some, Option.some_inj] at h
  exact ⟨h.1, h.2.symm⟩

end

/-! ### covariance of the pieces of `accTrace` under `x ↦ a·x + c`, `y ↦ b·y + d`

Every list and its divisor pick up the same factor: `|a|` or `|b|` for the gaps and the extent, `|b / a|` for the slopes and
their maximum; `divAll_scale` cancels it. -/

theorem ptAt_sub_affine (k c : Rat) (v : List Rat) {i j : Nat} (hi : i < v.length) (hj : j < v.length) :
    ptAt (v.map fun u => k * u + c) i - ptAt (v.map fun u => k * u + c) j = k * (ptAt v i - ptAt v j) := by
  rw [ptAt_map _ v hi, ptAt_map _ v hj, affine_sub]

theorem gapAbs_affine (k c : Rat) (v : List Rat) (knees : List Nat)
    (hb : ∀ g ∈ gapsOf knees, g.1 < v.length ∧ g.2 < v.length) :
    gapAbs (v.map fun u => k * u + c) knees = (gapAbs v knees).map fun a => rabs k * a := by
  unfold gapAbs
  rw [List.map_map]
  exact List.map_congr_left fun g hg => by
    rw [Function.comp, ptAt_sub_affine k c v (hb g hg).1 (hb g hg).2, rabs_mul]

theorem extent_affine (k c : Rat) (v : List Rat) : extent (v.map fun u => k * u + c) = rabs k * extent v := by
  by_cases hv : v = []
  · subst hv
    show rabs (0 - 0) = rabs k * rabs (0 - 0)
    rw [sub_zero, rabs_zero, mul_zero]
  · have hpos : 0 < v.length := List.length_pos_of_ne_nil hv
    unfold extent
    rw [List.length_map, ptAt_sub_affine k c v (Nat.sub_one_lt hpos.ne') hpos, rabs_mul]

theorem accNormX_affine {k : Rat} (hk : k ≠ 0) (c : Rat) (v : List Rat) (knees : List Nat)
    (hb : ∀ g ∈ gapsOf knees, g.1 < v.length ∧ g.2 < v.length) :
    accNormX (v.map fun u => k * u + c) knees = accNormX v knees := by
  rw [accNormX, gapAbs_affine k c v knees hb, extent_affine k c v, divAll_scale (rabs_pos hk).ne', accNormX]

theorem gapSlopes_affine (a b c d : Rat) (xs ys : List Rat) (knees : List Nat) (hlen : ys.length = xs.length)
    (hg : ∀ g ∈ gapsOf knees, g.1 ≤ g.2 ∧ g.1 < xs.length ∧ g.2 < xs.length) :
    gapSlopes (xs.map fun u => a * u + c) (ys.map fun u => b * u + d) knees
      = (gapSlopes xs ys knees).map fun s => rabs (b / a) * s := by
  unfold gapSlopes
  rw [List.map_map]
  refine List.map_congr_left fun g hgm => ?_
  obtain ⟨hle, h1, h2⟩ := hg g hgm
  rw [Function.comp, sliceQ_slope _ _ hle (by rwa [List.length_map]) (by rwa [List.length_map, hlen]),
    sliceQ_slope xs ys hle h2 (hlen ▸ h2), ptAt_sub_affine a c xs h1 h2, ptAt_sub_affine b d ys (hlen ▸ h1) (hlen ▸ h2),
    mul_div_mul_comm, rabs_mul]

theorem accNormSlopes_affine {a b : Rat} (ha : a ≠ 0) (hb : b ≠ 0) (c d : Rat) (xs ys : List Rat) (knees : List Nat)
    (hlen : ys.length = xs.length) (hg : ∀ g ∈ gapsOf knees, g.1 ≤ g.2 ∧ g.1 < xs.length ∧ g.2 < xs.length) :
    accNormSlopes (xs.map fun u => a * u + c) (ys.map fun u => b * u + d) knees = accNormSlopes xs ys knees := by
  have hba := rabs_pos (div_ne_zero hb ha)
  rw [accNormSlopes, gapSlopes_affine a b c d xs ys knees hlen hg, listMax_map_mul hba.le, divAll_scale hba.ne', accNormSlopes]

end Knee
