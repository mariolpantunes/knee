import Knee.Lemmas.Rdp
import Knee.Lemmas.Mapping
/-!
The refinement step shared by `_rdp_fixed` and `_grdp` (C01, C05, C06): its state invariant `RInv`, and
the two loops as iterates of it.
-/
namespace Knee

/-- `(left, right)` of a stack entry `(key, left, right)` -/
def rng (e : Rat × Nat × Nat) : Nat × Nat := (e.2.1, e.2.2)

/-- half-open ranges `(a, b+1)` of consecutive retained indices `a < b` that still have at least
one interior point, in curve order -/
def gaps : List Nat → List (Nat × Nat)
  | a :: b :: t => if a + 2 ≤ b then (a, b + 1) :: gaps (b :: t) else gaps (b :: t)
  | _ => []

/-- state invariant: `reduced` is a strictly increasing chain from 0 to n-1; the stack holds
*exactly* the retained segments that still have interior points (as a permutation), and is sorted
ascending by key (so the last element = top has a maximal key). -/
structure RInv (n : Nat) (s : RState) : Prop where
  inc : s.reduced.Pairwise (· < ·)
  first : s.reduced[0]? = some 0
  last : s.reduced.getLast? = some (n - 1)
  stk : (s.stack.map rng).Perm (gaps s.reduced)
  srt : s.stack.Pairwise (fun a b => a.1 ≤ b.1)

theorem insertKeyed_eq : insertKeyed = insertBy (fun a b => a.1 < b.1) :=
  eq_insertBy (fun _ => rfl) fun _ _ _ => rfl

theorem sortKeyed_eq (l : List (Rat × Nat × Nat)) : sortKeyed l = sortByL (fun a b => a.1 < b.1) l := by
  rw [sortKeyed, insertKeyed_eq]
  rfl

theorem sortKeyed_perm (l : List (Rat × Nat × Nat)) : (sortKeyed l).Perm l := by
  rw [sortKeyed_eq]
  exact sortByL_perm l

theorem sortKeyed_sorted (l : List (Rat × Nat × Nat)) :
    (sortKeyed l).Pairwise (fun a b => a.1 ≤ b.1) := by
  rw [sortKeyed_eq]
  exact sortByL_pairwise l (fun _ _ => Rat.le_of_lt) (fun _ _ => Rat.not_lt.mp) fun _ _ _ => Rat.le_trans

theorem rinit_inv (n : Nat) (hn : 2 ≤ n) : RInv n (rinit n) := by
  -- `n = m + 2`, so that `n - 1` and the two tests `n > 2`, `0 + 2 ≤ n - 1` compute
  obtain ⟨m, rfl⟩ := Nat.exists_eq_add_of_le' hn
  refine ⟨List.pairwise_pair.mpr (Nat.succ_pos m), rfl, rfl, ?_, by unfold rinit; split <;> simp⟩
  cases m with
  | zero => exact .refl _
  | succ m => exact .refl _

theorem gaps_append_cons (A : List Nat) (a : Nat) (rest : List Nat) :
    gaps (A ++ a :: rest) = gaps (A ++ [a]) ++ gaps (a :: rest) := by
  induction A with
  | nil => rfl
  | cons y A ih =>
    cases A with
    | nil =>
      simp only [List.cons_append, List.nil_append, gaps]
      split <;> rfl
    | cons z A =>
      simp only [List.cons_append, gaps] at ih ⊢
      rw [ih]
      split <;> rfl

theorem mem_gaps_split {red : List Nat} {a c : Nat} (h : (a, c) ∈ gaps red) :
    ∃ A b B, red = A ++ a :: b :: B ∧ c = b + 1 ∧ a + 2 ≤ b := by
  fun_induction gaps red with
  | case1 y z t hyz ih =>
    rcases List.mem_cons.mp h with e | hm
    · obtain ⟨rfl, rfl⟩ := Prod.mk.inj e
      exact ⟨[], z, t, rfl, rfl, hyz⟩
    · obtain ⟨A, b, B, e, hc, hab⟩ := ih hm
      exact ⟨y :: A, b, B, congrArg (y :: ·) e, hc, hab⟩
  | case2 y z t hyz ih =>
    obtain ⟨A, b, B, e, hc, hab⟩ := ih h
    exact ⟨y :: A, b, B, congrArg (y :: ·) e, hc, hab⟩
  | case3 => exact absurd h List.not_mem_nil

/-- no segment with interior points left ⇔ nothing dropped: with `RInv.total`, the bridge between the stack
and the size of `reduced` -/
theorem gaps_eq_nil_iff (s : List Nat) : gaps s = [] ↔ ((computeRemoved s).map (·.2)).sum = 0 := by
  fun_induction gaps s with
  | case1 a b t h ih =>
    rw [computeRemoved, List.map_cons, List.sum_cons]
    exact iff_of_false (List.cons_ne_nil _ _) (by omega)
  | case2 a b t h ih =>
    rw [computeRemoved, List.map_cons, List.sum_cons, show b - a - 1 = 0 by omega, Nat.zero_add]
    exact ih
  | case3 s h =>
    rcases s with _ | ⟨a, _ | ⟨b, t⟩⟩
    · exact iff_of_true rfl rfl
    · exact iff_of_true rfl rfl
    · exact absurd rfl (h a b t)

theorem gaps_between (A B : List Nat) (a x b : Nat) (hab : a + 2 ≤ b) :
    gaps (A ++ a :: b :: B) = gaps (A ++ [a]) ++ (a, b + 1) :: gaps (b :: B) ∧
    gaps (A ++ a :: x :: b :: B) = gaps (A ++ [a]) ++ gaps [a, x, b] ++ gaps (b :: B) := by
  constructor
  · rw [gaps_append_cons, gaps, if_pos hab]
  · rw [gaps_append_cons, List.append_assoc]
    exact congrArg _ (gaps_append_cons [a, x] b B)

theorem ite_append_singleton {α} (c : Prop) [Decidable c] (st : List α) (x : α) :
    (if c then st ++ [x] else st) = st ++ if c then [x] else [] := by
  split
  · rfl
  · exact (List.append_nil st).symm

/-- The model's two `if … then st ++ [x] else st` are written
`st ++ (if … then [x] else [])`, so that `List.map_append` / `List.mem_append` apply, and their guards
(`index + 1 > 2`, `len(pt) - index > 2`) in the form in which `gaps` tests a pair of retained indices. -/
theorem refineStep_eq {dst : Nat → Nat → List Rat} {key : Nat → Nat → Nat → Rat × Rat} {s : RState}
    {k : Rat} {l r : Nat} (h : s.stack.getLast? = some (k, l, r)) :
    refineStep dst key s =
      { stack := sortKeyed
          (s.stack.dropLast
            ++ (if l + 2 ≤ l + pickSplit (dst l r) then
                  [((key l r (pickSplit (dst l r))).1, l, l + pickSplit (dst l r) + 1)] else [])
            ++ (if l + pickSplit (dst l r) + 2 ≤ r - 1 then
                  [((key l r (pickSplit (dst l r))).2, l + pickSplit (dst l r), r)] else [])),
        reduced := insertSorted (l + pickSplit (dst l r)) s.reduced } := by
  have e1 : (pickSplit (dst l r) + 1 > 2) = (l + 2 ≤ l + pickSplit (dst l r)) := propext (by omega)
  have e2 : (r - l - pickSplit (dst l r) > 2) = (l + pickSplit (dst l r) + 2 ≤ r - 1) :=
    propext (by omega)
  unfold refineStep
  rw [h]
  simp only [e1, e2, ite_append_singleton]

section step
variable {dst : Nat → Nat → List Rat} {key : Nat → Nat → Nat → Rat × Rat} {n : Nat} {s : RState}
  {k : Rat} {l r : Nat}

theorem refineStep_reduced (htop : s.stack.getLast? = some (k, l, r)) :
    (refineStep dst key s).reduced = insertSorted (l + pickSplit (dst l r)) s.reduced := by
  rw [refineStep_eq htop]

/-- the top of the stack is a gap of `reduced` with the largest key, and its split index is a new one strictly inside it -/
theorem RInv.top (hd : ∀ l r, (dst l r).length = r - l) (h : RInv n s) (htop : s.stack.getLast? = some (k, l, r)) :
    (l, r) ∈ gaps s.reduced ∧ (∀ e ∈ s.stack, e.1 ≤ k) ∧
    l < l + pickSplit (dst l r) ∧ l + pickSplit (dst l r) + 1 < r ∧
    l + pickSplit (dst l r) ∉ s.reduced := by
  obtain ⟨st, hst⟩ := List.getLast?_eq_some_iff.mp htop
  have hmem : (l, r) ∈ gaps s.reduced := h.stk.mem_iff.mp (List.mem_map.mpr
    ⟨(k, l, r), by rw [hst]; exact List.mem_append_right _ List.mem_cons_self, rfl⟩)
  obtain ⟨A, b, B, hred, rfl, hab⟩ := mem_gaps_split hmem
  have hps := pickSplit_interior (d := dst l (b + 1)) (by rw [hd]; omega)
  rw [hd] at hps
  have hx : l < l + pickSplit (dst l (b + 1)) ∧ l + pickSplit (dst l (b + 1)) < b := by omega
  refine ⟨hmem, fun e he => ?_, hx.1, Nat.succ_lt_succ hx.2,
    hred ▸ not_mem_between A B (hred ▸ h.inc) hx.1 hx.2⟩
  have hs := h.srt
  rw [hst, List.pairwise_append] at hs
  rw [hst] at he
  rcases List.mem_append.mp he with he | he
  -- the last entry is written out: left to the unifier, `Rat`'s `≤` is unfolded at great cost
  · exact hs.2.2 e he (k, l, b + 1) List.mem_cons_self
  · obtain rfl := List.mem_singleton.mp he
    exact Rat.le_refl

/-- the step keeps the invariant: the popped segment's place among the gaps of `reduced` is taken by
its children, which are also what is pushed -/
theorem RInv.step (hd : ∀ l r, (dst l r).length = r - l) (h : RInv n s) (htop : s.stack.getLast? = some (k, l, r)) :
    RInv n (refineStep dst key s) := by
  obtain ⟨hmem, _, hlx, hxb, hnot⟩ := h.top hd htop
  obtain ⟨st, hst⟩ := List.getLast?_eq_some_iff.mp htop
  obtain ⟨A, b, B, hred, rfl, hab⟩ := mem_gaps_split hmem
  rw [refineStep_eq htop]
  generalize pickSplit (dst l (b + 1)) = i at hlx hxb hnot
  have hinc := h.inc
  have hf := h.first
  have hl := h.last
  have hs := h.stk
  rw [hred] at hinc hf hl hs hnot
  have hins := insertSorted_between A B hinc hlx (show l + i < b by omega)
  obtain ⟨g1, g2⟩ := gaps_between A B l (l + i) b hab
  refine ⟨?_, ?_, ?_, ?_, sortKeyed_sorted _⟩ <;> dsimp only <;> rw [hred]
  · exact insertSorted_pairwise hinc hnot
  · rw [hins]
    cases A <;> exact hf
  · rw [hins]
    simpa [List.getLast?_append] using hl
  · rw [hins, g2, hst, List.dropLast_concat, Nat.add_sub_cancel]
    rw [g1, hst, List.map_append] at hs
    -- the popped segment is removed from both sides
    have hpop : ((l, b + 1) :: st.map rng).Perm ((l, b + 1) :: (gaps (A ++ [l]) ++ gaps (b :: B))) :=
      ((List.perm_append_singleton _ _).symm.trans hs).trans List.perm_middle
    -- its children, as ranges, are the gaps that the new index creates
    have hnew : ((if l + 2 ≤ l + i then [((key l (b + 1) i).1, l, l + i + 1)] else []) ++
        (if l + i + 2 ≤ b then [((key l (b + 1) i).2, l + i, b + 1)] else [])).map rng
        = gaps [l, l + i, b] := by
      simp only [gaps, List.map_append, apply_ite (List.map rng), List.map_cons, List.map_nil, rng]
      split <;> rfl
    refine ((sortKeyed_perm _).map rng).trans ?_
    rw [List.append_assoc, List.map_append, hnew]
    refine (hpop.cons_inv.append_right _).trans ?_
    rw [List.append_assoc, List.append_assoc]
    exact List.Perm.append_left _ List.perm_append_comm

end step

theorem RInv.total {n : Nat} {s : RState} (hn : 2 ≤ n) (h : RInv n s) :
    s.reduced.length + ((computeRemoved s.reduced).map (·.2)).sum = n :=
  computeRemoved_total_ends h.inc h.first h.last (Nat.le_of_succ_le hn)

theorem RInv.length_le {n : Nat} {s : RState} (hn : 2 ≤ n) (h : RInv n s) : s.reduced.length ≤ n :=
  Nat.le.intro (h.total hn)

theorem RInv.stack_nil_iff {n : Nat} {s : RState} (hn : 2 ≤ n) (h : RInv n s) :
    s.stack = [] ↔ s.reduced.length = n := by
  have := h.total hn
  have hg : gaps s.reduced = [] ↔ s.reduced.length = n := by rw [gaps_eq_nil_iff, ← this, Nat.left_eq_add]
  rw [← hg, ← List.map_eq_nil_iff (f := rng)]
  exact ⟨fun e => List.nil_perm.mp (e ▸ h.stk), fun e => List.perm_nil.mp (e ▸ h.stk)⟩

/-- `j` consecutive executions of the loop body (pop, split, push, sort) -/
def stepN (dst : Nat → Nat → List Rat) (key : Nat → Nat → Nat → Rat × Rat) : Nat → RState → RState
  | 0, s => s
  | j + 1, s => stepN dst key j (refineStep dst key s)

/-- number of executions of the body of `_rdp_fixed`'s `while length > 0 and stack:` loop;
same recursion as `fixedLoop` -/
def fixedSteps (dst : Nat → Nat → List Rat) (key : Nat → Nat → Nat → Rat × Rat) : Nat → RState → Nat
  | 0, _ => 0
  | k + 1, s => if s.stack.isEmpty then 0 else fixedSteps dst key k (refineStep dst key s) + 1

/-- number of executions of the body of `_grdp`'s `while curved and stack:` loop;
same recursion as `grdpLoop` -/
def grdpSteps (accept : List Nat → Bool) (dst : Nat → Nat → List Rat) (key : Nat → Nat → Nat → Rat × Rat) :
    Nat → RState → Nat
  | 0, _ => 0
  | f + 1, s =>
    if accept s.reduced || s.stack.isEmpty then 0 else grdpSteps accept dst key f (refineStep dst key s) + 1

section loops
variable {accept : List Nat → Bool} {dst : Nat → Nat → List Rat} {key : Nat → Nat → Nat → Rat × Rat}

theorem refineStep_of_nil {s : RState} (h : s.stack = []) : refineStep dst key s = s := by
  simp [refineStep, h]

theorem stepN_add (a b : Nat) (s : RState) :
    stepN dst key (a + b) s = stepN dst key b (stepN dst key a s) := by
  induction a generalizing s with
  | zero => rw [Nat.zero_add]; rfl
  | succ a ih => rw [Nat.add_right_comm]; exact ih _

theorem stepN_succ (j : Nat) (s : RState) :
    stepN dst key (j + 1) s = refineStep dst key (stepN dst key j s) :=
  stepN_add j 1 s

theorem stepN_of_nil {s : RState} (h : s.stack = []) (j : Nat) : stepN dst key j s = s := by
  induction j with
  | zero => rfl
  | succ j ih => rw [stepN_succ, ih, refineStep_of_nil h]

theorem refineStep_sublist (s : RState) : s.reduced.Sublist (refineStep dst key s).reduced := by
  cases htop : s.stack.getLast? with
  | none => rw [refineStep_of_nil (List.getLast?_eq_none_iff.mp htop)]; exact .refl _
  | some top =>
    obtain ⟨k, l, r⟩ := top
    rw [refineStep_reduced htop]
    exact sublist_insertSorted _ _

theorem stepN_sublist {i j : Nat} (h : i ≤ j) (s : RState) :
    (stepN dst key i s).reduced.Sublist (stepN dst key j s).reduced := by
  induction h with
  | refl => exact .refl _
  | step _ ih => rw [stepN_succ]; exact ih.trans (refineStep_sublist _)

theorem fixedLoop_eq_stepN (k : Nat) (s : RState) : fixedLoop dst key k s = stepN dst key k s := by
  induction k generalizing s with
  | zero => rfl
  | succ k ih =>
    rw [fixedLoop]
    split
    · rename_i he
      exact (stepN_of_nil (List.isEmpty_iff.mp he) _).symm
    · exact ih _

theorem fixedLoop_eq_grdpLoop (k : Nat) (s : RState) :
    fixedLoop dst key k s = grdpLoop (fun _ => false) dst key k s := by
  induction k generalizing s with
  | zero => rfl
  | succ k ih => simp only [fixedLoop, grdpLoop, Bool.false_or, ih]

theorem fixedSteps_eq_grdpSteps (k : Nat) (s : RState) :
    fixedSteps dst key k s = grdpSteps (fun _ => false) dst key k s := by
  induction k generalizing s with
  | zero => rfl
  | succ k ih => simp only [fixedSteps, grdpSteps, Bool.false_or, ih]

theorem grdpLoop_eq_stepN (f : Nat) (s : RState) :
    grdpLoop accept dst key f s = stepN dst key (grdpSteps accept dst key f s) s := by
  induction f generalizing s with
  | zero => rfl
  | succ f ih =>
    rw [grdpLoop, grdpSteps]
    split
    · rfl
    · exact ih _

theorem grdpSteps_le_fuel (f : Nat) (s : RState) : grdpSteps accept dst key f s ≤ f := by
  fun_induction grdpSteps accept dst key f s with
  | case1 => exact Nat.le_refl _
  | case2 => exact Nat.zero_le _
  | case3 _ _ _ ih => exact Nat.succ_le_succ ih

theorem grdpSteps_before (f : Nat) (s : RState) (j : Nat) (hj : j < grdpSteps accept dst key f s) :
    accept (stepN dst key j s).reduced = false ∧ (stepN dst key j s).stack ≠ [] := by
  fun_induction grdpSteps accept dst key f s generalizing j with
  | case1 => exact absurd hj (Nat.not_lt_zero _)
  | case2 => exact absurd hj (Nat.not_lt_zero _)
  | case3 f s he ih =>
    cases j with
    | zero => simpa [stepN] using he
    | succ j => exact ih j (by omega)

theorem grdpSteps_stop (f : Nat) (s : RState) (h : grdpSteps accept dst key f s < f) :
    accept (grdpLoop accept dst key f s).reduced = true ∨ (grdpLoop accept dst key f s).stack = [] := by
  fun_induction grdpLoop accept dst key f s with
  | case1 => exact absurd h (Nat.not_lt_zero _)
  | case2 f s he => simpa using he
  | case3 f s he ih =>
    rw [grdpSteps, if_neg he] at h
    exact ih (by omega)

theorem rdpFixed_eq_stepN (n k : Nat) :
    rdpFixed dst key n k = (stepN dst key (k - 2) (rinit n)).reduced := by
  rw [rdpFixed, fixedLoop_eq_stepN]

theorem grdp_eq_rdpFixed (n : Nat) :
    grdp accept dst key n = rdpFixed dst key n (grdpSteps accept dst key n (rinit n) + 2) := by
  rw [rdpFixed_eq_stepN, grdp, grdpLoop_eq_stepN]
  rfl

/-! `accept` and `key` occur in no hypothesis below, so they are explicit. -/

variable (accept key) (hd : ∀ l r, (dst l r).length = r - l) {n : Nat} (hn : 2 ≤ n)
include hd hn

theorem refineStep_inv {s : RState} (h : RInv n s) : RInv n (refineStep dst key s) ∧
    (refineStep dst key s).reduced.length = min (s.reduced.length + 1) n := by
  have hle := h.length_le hn
  by_cases he : s.stack = []
  · rw [refineStep_of_nil he]
    exact ⟨h, by rw [(h.stack_nil_iff hn).mp he, Nat.min_eq_right (Nat.le_succ n)]⟩
  · have htop := List.getLast?_eq_some_getLast he
    have := mt (h.stack_nil_iff hn).mpr he
    exact ⟨h.step hd htop, by rw [refineStep_reduced htop, insertSorted_length, Nat.min_eq_left (Nat.lt_of_le_of_ne hle this)]⟩

theorem stepN_inv {s : RState} (h : RInv n s) (j : Nat) : RInv n (stepN dst key j s) ∧
    (stepN dst key j s).reduced.length = min (s.reduced.length + j) n := by
  induction j with
  | zero => exact ⟨h, (Nat.min_eq_left (h.length_le hn)).symm⟩
  | succ j ih =>
    rw [stepN_succ]
    have := refineStep_inv key hd hn ih.1
    refine ⟨this.1, ?_⟩
    -- `min (min a n + 1) n = min (a + 1) n`
    rw [this.2, ih.2, ← Nat.add_assoc, ← Nat.add_min_add_right, Nat.min_assoc, Nat.min_eq_right (Nat.le_succ n)]

theorem stepN_rinit (j : Nat) : RInv n (stepN dst key j (rinit n)) ∧
    (stepN dst key j (rinit n)).reduced.length = min (j + 2) n := by
  have h := stepN_inv key hd hn (rinit_inv n hn) j
  rwa [show (rinit n).reduced.length = 2 from rfl, Nat.add_comm] at h

/-- the stack was non-empty before the last execution of the body, so not all indices were retained
yet: the global loop runs out of points before it can run out of any fuel -/
theorem grdpSteps_add_le {s : RState} (h : RInv n s) (f : Nat) :
    s.reduced.length + grdpSteps accept dst key f s ≤ n := by
  cases hg : grdpSteps accept dst key f s with
  | zero => exact h.length_le hn
  | succ g =>
    have hlt : g < grdpSteps accept dst key f s := hg ▸ Nat.lt_succ_self g
    have hb := (grdpSteps_before f s g hlt).2
    obtain ⟨hi, hlen⟩ := stepN_inv key hd hn h g
    have := mt (hi.stack_nil_iff hn).mpr hb
    exact Nat.lt_of_not_le fun hge => this (hlen.trans (Nat.min_eq_right hge))

theorem grdpSteps_le {s : RState} (h : RInv n s) (f : Nat) :
    grdpSteps accept dst key f s ≤ n - s.reduced.length :=
  Nat.le_sub_of_add_le' (grdpSteps_add_le accept key hd hn h f)

theorem grdpLoop_inv {s : RState} (h : RInv n s) (f : Nat) : RInv n (grdpLoop accept dst key f s) := by
  rw [grdpLoop_eq_stepN]
  exact (stepN_inv key hd hn h _).1

theorem grdpLoop_length {s : RState} (h : RInv n s) (f : Nat) :
    (grdpLoop accept dst key f s).reduced.length = s.reduced.length + grdpSteps accept dst key f s := by
  rw [grdpLoop_eq_stepN, (stepN_inv key hd hn h _).2]
  exact Nat.min_eq_left (grdpSteps_add_le accept key hd hn h f)

theorem grdpLoop_stop {s : RState} (h : RInv n s) {f : Nat} (hlt : grdpSteps accept dst key f s < f) :
    accept (grdpLoop accept dst key f s).reduced = true ∨
      (grdpLoop accept dst key f s).reduced.length = n :=
  (grdpSteps_stop f s hlt).imp_right ((grdpLoop_inv accept key hd hn h f).stack_nil_iff hn).mp

theorem fixedLoop_length {s : RState} (h : RInv n s) (k : Nat) :
    (fixedLoop dst key k s).reduced.length = s.reduced.length + fixedSteps dst key k s := by
  rw [fixedLoop_eq_grdpLoop, fixedSteps_eq_grdpSteps]
  exact grdpLoop_length (fun _ => false) key hd hn h k

theorem fixedSteps_eq {s : RState} (h : RInv n s) (k : Nat) :
    fixedSteps dst key k s = min k (n - s.reduced.length) := by
  rw [fixedSteps_eq_grdpSteps]
  have h1 : grdpSteps (fun _ => false) dst key k s ≤ k := grdpSteps_le_fuel k s
  have h2 := grdpSteps_add_le (fun _ => false) key hd hn h k
  have h3 := grdpLoop_length (fun _ => false) key hd hn h k
  -- the cost is never accepted: stopping early means that all `n` indices are retained
  by_cases hf : grdpSteps (fun _ => false) dst key k s < k
  · have hfull := (grdpLoop_stop (fun _ => false) key hd hn h hf).resolve_left (by simp)
    rw [h3] at hfull
    rw [← hfull, Nat.add_sub_cancel_left, Nat.min_eq_right (Nat.le_of_lt hf)]
  · have e := Nat.le_antisymm h1 (Nat.le_of_not_lt hf)
    rw [e] at h2 ⊢
    exact (Nat.min_eq_left (Nat.le_sub_of_add_le' h2)).symm

theorem rdpFixed_min (k : Nat) : rdpFixed dst key n k = rdpFixed dst key n (min k n) := by
  by_cases hk : k ≤ n
  · rw [Nat.min_eq_left hk]
  · have hkn := Nat.le_of_lt (Nat.lt_of_not_le hk)
    obtain ⟨hi, hlen⟩ := stepN_rinit key hd hn (n - 2)
    have hnil := (hi.stack_nil_iff hn).mpr (by rw [hlen, Nat.sub_add_cancel hn, Nat.min_self])
    rw [rdpFixed_eq_stepN, rdpFixed_eq_stepN, ← Nat.sub_add_sub_cancel hkn hn, Nat.add_comm (k - n), stepN_add,
      stepN_of_nil hnil, Nat.min_eq_right hkn]

theorem grdpSteps_rinit_le : grdpSteps accept dst key n (rinit n) + 2 ≤ n := by
  have := grdpSteps_add_le accept key hd hn (rinit_inv n hn) n
  rwa [show (rinit n).reduced.length = 2 from rfl, Nat.add_comm] at this

theorem grdp_length : (grdp accept dst key n).length = grdpSteps accept dst key n (rinit n) + 2 := by
  rw [grdp, grdpLoop_length accept key hd hn (rinit_inv n hn), Nat.add_comm]
  rfl

theorem grdp_stop : accept (grdp accept dst key n) = true ∨ (grdp accept dst key n).length = n :=
  grdpLoop_stop accept key hd hn (rinit_inv n hn) (Nat.lt_of_succ_lt (grdpSteps_rinit_le accept key hd hn))

/-- `mp_grdp` continues the global loop's state, so it is again a fixed-size result -/
theorem mpGrdp_eq (m : Nat) : mpGrdp accept dst key n m =
    rdpFixed dst key n (max (grdpSteps accept dst key n (rinit n) + 2) (min m n)) := by
  have hj := grdpSteps_rinit_le accept key hd hn
  rw [mpGrdp]
  simp only [show (grdpLoop accept dst key n (rinit n)).reduced = grdp accept dst key n from rfl,
    grdp_length accept key hd hn]
  by_cases h : grdpSteps accept dst key n (rinit n) + 2 ≥ m
  · rw [if_pos h, grdp_eq_rdpFixed, Nat.max_eq_left (Nat.le_trans (Nat.min_le_left ..) h)]
  · rw [if_neg h, grdpLoop_eq_stepN, fixedLoop_eq_stepN, ← stepN_add,
      Nat.max_eq_right (Nat.le_min.mpr ⟨Nat.le_of_lt (Nat.lt_of_not_ge h), hj⟩),
      ← rdpFixed_min key hd hn m, rdpFixed_eq_stepN]
    -- steps of the global phase + (m - its length) = m - 2
    congr 3
    omega

end loops

end Knee
