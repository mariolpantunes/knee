import Knee.Model.PipelineCfgM
import Knee.Lemmas.Bridge
import Knee.Props.C08F
/-!
The monadic twin `pipelineCfgM`, run at `Id` with the tabulations of the pure oracles, IS
`pipelineCfg` (`pipelineCfgM_id`): every stage consults its oracle only at arguments the table
covers (the `*_congr` lemmas), and the two questions the twin skips (no IoU table for no knees, no
linkage for at most one knee) would not have changed the result.
-/
namespace Knee

def SimpOracles.toM (o : SimpOracles) : SimpOraclesM Id :=
  ⟨fun l r => pure (o.cst l r), fun l r => pure (o.dst l r), fun l r i => pure (o.key l r i),
    fun red => pure (o.gcs red)⟩

def ClusterMode.toM : ClusterMode → ClusterModeM Id
  | .rank score => .rank (fun g => pure (score g))
  | .hull hl herr => .hull (pure hl) (fun g => pure (g.map (herr g)))
  | .corners area => .corners (fun g => pure (area g))

def Final.toM : Final → FinalM Id
  | .map => .map
  | .addEven hOrig wide npts ext =>
    .addEven (fun n => pure ((List.range n).map hOrig))
      (fun k => pure ((List.range k).map fun i => if wide i then 1 else 0))
      (fun k => pure ((List.range k).map npts)) ext

theorem acceptM_id (isR2 : Bool) (t : Rat) (gcs : List Nat → Rat) :
    acceptM (m := Id) isR2 t (fun red => pure (gcs red)) = fun red => pure (acceptOf isR2 t gcs red) := by
  funext red
  simp only [acceptM, acceptOf, pure_bind]

theorem simplifyM_id (s : Simplifier) (o : SimpOracles) (n : Nat) :
    simplifyM (m := Id) s o.toM n = pure (simplify s o n) := by
  cases s with
  | rdp isR2 t => exact rdpM_id isR2 t o.cst o.dst n
  | grdp isR2 t =>
    simp only [simplifyM, SimpOracles.toM, acceptM_id, grdpLoopM_id, pure_bind, simplify, grdp]
  | fixed k =>
    simp only [simplifyM, SimpOracles.toM, fixedLoopM_id, pure_bind, simplify, rdpFixed]
  | mpGrdp isR2 t mp =>
    simp only [simplifyM, SimpOracles.toM, acceptM_id, mpGrdpM_id, pure_bind, simplify]
  | minPoint isR2 mp ts =>
    simp only [simplifyM, SimpOracles.toM, acceptM_id, minPointRdpM_id, pure_bind, simplify]

theorem find_zip_map {α β : Type} [BEq α] [LawfulBEq α] (f : α → β) (l : List α) (k : α)
    (hk : k ∈ l) : ((l.zip (l.map f)).find? fun p => p.1 == k) = some (k, f k) := by
  induction l with
  | nil => cases hk
  | cons a t ih =>
    simp only [List.map_cons, List.zip_cons_cons, List.find?_cons]
    by_cases hak : a = k
    · subst hak; simp
    · simp only [beq_false_of_ne hak]
      exact ih ((List.mem_cons.1 hk).resolve_left fun e => hak e.symm)

theorem rowOf_zip_map {f : List Nat → List Rat} {gs : List (List Nat)} {c : List Nat} (hc : c ∈ gs) :
    rowOf (gs.zip (gs.map f)) c = f c := by
  simp only [rowOf, find_zip_map f gs c hc, Option.map_some, Option.getD_some]

theorem herrOf_zip_map {f : List Nat → List Rat} {herr : List Nat → Nat → Rat}
    {gs : List (List Nat)} {c : List Nat} (hc : c ∈ gs) (hf : f c = c.map (herr c)) {j : Nat}
    (hj : j ∈ c) : herrOf (gs.zip (gs.map f)) c j = herr c j := by
  simp only [herrOf, rowOf_zip_map hc, hf, find_zip_map (herr c) c j hj, Option.map_some,
    Option.getD_some]

theorem cornerFilter_tbl (m : Nat) (iou : Nat → Rat) (tc : Rat) (w : List Nat) :
    cornerFilter m (fun k => (((w.zip (w.map iou)).find? fun p => p.1 == k).map (·.2)).getD 0) tc w
      = cornerFilter m iou tc w :=
  cornerFilter_congr fun k hk => by
    simp only [find_zip_map iou w k hk, Option.map_some, Option.getD_some]

theorem clusterStageM_id (cm : ClusterMode) (labels knees : List Nat) :
    clusterStageM (m := Id) cm.toM labels knees = pure (clusterStage cm labels knees) := by
  cases cm with
  | rank score =>
    simp only [clusterStageM, ClusterMode.toM, ← apply_ite pure, List.mapM_pure, pure_bind,
      clusterStage]
    refine congrArg pure (clusterFilter_congr fun c hc hl => ?_)
    rw [rowOf_zip_map hc, if_pos hl]
  | hull hl herr =>
    simp only [clusterStageM, ClusterMode.toM, ← apply_ite pure, List.mapM_pure, pure_bind,
      clusterStage]
    exact congrArg pure (clusterFilterHull_congr fun c hc hlen j hj =>
      herrOf_zip_map hc (if_pos hlen) hj)
  | corners area =>
    simp only [clusterStageM, ClusterMode.toM, List.mapM_pure, pure_bind, clusterStage]
    exact congrArg pure (clusterFilterCorners_congr fun c hc => rowOf_zip_map hc)

/-- `rank` / `hull`: the filter returns its input when `len(knees) ≤ 1`; `corners`: a single knee forms
a single group whatever its label. -/
theorem clusterStage_small (cm : ClusterMode) (c labels labels' : List Nat) (hc : c.length ≤ 1)
    (hl : labels.length = c.length) (hl' : labels'.length = c.length) :
    clusterStage cm labels c = clusterStage cm labels' c := by
  cases cm with
  | rank score => simp only [clusterStage, clusterFilter_small _ _ _ hc]
  | hull hl herr => simp only [clusterStage, clusterFilterHull_eq, if_pos hc]
  | corners area =>
    cases c with
    | nil => rw [List.length_eq_zero_iff.1 hl, List.length_eq_zero_iff.1 hl']
    | cons k t =>
      obtain rfl : t = [] := List.length_eq_zero_iff.1 (Nat.le_zero.1 (Nat.le_of_succ_le_succ hc))
      obtain ⟨l, rfl⟩ := List.length_eq_one_iff.1 hl
      obtain ⟨l', rfl⟩ := List.length_eq_one_iff.1 hl'
      simp only [clusterStage, clusterFilterCorners, groupByLabels_singleton]

theorem clusterStage_shortcut (cm : ClusterMode) {labelsOf : List Nat → List Nat}
    (hl : ∀ ks, (labelsOf ks).length = ks.length) (c : List Nat) :
    clusterStage cm (if c.length ≤ 1 then c.map fun _ => 0 else labelsOf c) c
      = clusterStage cm (labelsOf c) c := by
  by_cases hc : c.length ≤ 1
  · rw [if_pos hc]
    exact clusterStage_small cm c _ _ hc (List.length_map _) (hl c)
  · rw [if_neg hc]

theorem ite_isEmpty_map {α β : Type} (f : α → β) (w : List α) :
    (if w.isEmpty = true then [] else w.map f) = w.map f := by
  cases w <;> rfl

/-- **Bridge, whole pipeline.** `pipelineCfgM` at `Id`, with every oracle the tabulation of the
corresponding pure oracle, IS `pipelineCfg` (all five simplifiers, all three cluster modes, both
final stages).  Hypotheses: exactly those of `pipelineCfg_end_to_end`.  They are needed because
the tables have finitely many entries: `multi_knee`'s positions must be `< len(reduced)` for the
height table `hts len` to cover them (`hdet`, via `multiKnee_sorted_range_large`), `reduced` must be
a strictly increasing index list ending at `n - 1` for `add_points_even`'s candidates to be `< n`
(`hn`, `hs`, `hd`, via `simplify_wf`), and `hl` makes the twin's all-zero labels on `≤ 1` knees
equivalent to `labelsOf` (`clusterStage_small`).  No hypothesis on `npts` (neither `0 < npts i`
nor anything about the default `getD 1`) and none on `labelsOf` beyond `hl` is needed. -/
theorem pipelineCfgM_id (s : Simplifier) (o : SimpOracles) (n : Nat)
    (det : Nat → Nat → Option Nat) (gate : Nat → Nat → Bool) (t2 : Nat)
    (h : Nat → Rat) (iou : Nat → Rat) (tc : Rat) (labelsOf : List Nat → List Nat)
    (cm : ClusterMode) (fin : Final)
    (hn : 2 ≤ n) (hs : SimpDomain s) (hd : ∀ l r, (o.dst l r).length = r - l)
    (hdet : DetOKLarge t2 det) (hl : ∀ ks, (labelsOf ks).length = ks.length) :
    (pipelineCfgM (m := Id) s o.toM n (fun _ => pure ()) (fun l r => pure (det l r))
        (fun l r => pure (gate l r)) t2 (fun len => pure ((List.range len).map h))
        (fun ks => pure (ks.map iou)) tc (fun ks => pure (labelsOf ks)) cm.toM fin.toM).run
      = pipelineCfg s o n det gate t2 h iou tc labelsOf cm fin := by
  refine (congrArg Id.run ?_).trans
    (Id.run_pure (pipelineCfg s o n det gate t2 h iou tc labelsOf cm fin))
  obtain ⟨reduced, knees, hsimp, hmk, hpw, h0, -, hrb, hkpw, hkb⟩ :=
    pipelineCfg_front s o n det gate t2 hn hs hd hdet
  have hkb' : ∀ k ∈ knees, k < reduced.length := fun k hk => Nat.lt_of_succ_lt (hkb k hk)
  have hw : worstFilter (fun k => ((List.range reduced.length).map h)[k]?.getD 0) knees
      = worstFilter h knees :=
    worstFilter_congr fun k hk => getD_range_map (hkb' k hk)
  rw [pipelineCfg_eq_some h iou tc labelsOf cm fin hsimp hmk]
  -- `-zeta` keeps the join points of the `do` block, so that `← apply_ite` can move the twin's two
  -- `if`s from the computations to the data they produce
  simp -zeta only [pipelineCfgM, simplifyM_id, pure_bind, hsimp, multiKneeM_id, hmk, ← apply_ite]
  simp only [hw, ite_isEmpty_map, cornerFilter_tbl, clusterStageM_id, pure_bind,
    clusterStage_shortcut cm hl]
  -- every stage up to the cluster filter now reads as in `pipelineCfg_eq_some`; the final stage remains
  cases fin with
  | map => rfl
  | addEven hOrig wide npts ext =>
    have t := tail_wf h reduced.length iou tc (fun c => clusterStage cm (labelsOf c) c)
      (fun c => clusterStage_sublist cm (labelsOf c) c (hl c)) reduced knees hpw h0 hkpw hkb'
    simp only [Final.toM, pure_bind]
    exact congrArg (fun out => (pure (some ⟨_, _, _, _, _, _, out⟩) : Id (Option StagesCfg)))
      (addEven_congr n reduced _ ext hpw h0 hrb (t.cluster_strict.imp Nat.le_of_lt) t.cluster_lt
        (fun i hi => getD_range_map hi)
        (fun i hi => by rw [getD_range_map hi]; cases wide i <;> rfl)
        (fun i hi => getD_range_map hi))

end Knee
