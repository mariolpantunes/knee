import Knee.Model.Basic
import Knee.Lemmas.InsertSort
/-! Lemmas about `Model/Basic` (`numpy.argmax` / `argmin`, `a[1:-1]`, `list.append(x); list.sort()`).  The
first-extremum specification is proved for `argmax`; `argmin l = argmax (-l)`.  Core Lean only, like the model
file and the files of the RDP simplifiers (hence `Rat.le_refl`, `Std.lt_of_le_of_lt`). -/
namespace Knee

/-- Scanning a fixed list `l` from position `i` on, with the first maximum `bi` of `l[0..i)` as the
best so far, ends at the first maximum of `l`.  `m` is what is left to scan (the induction is on it); the result
is named `k`, so that one step of the scan is a rewrite of that equation. -/
theorem argmaxGo_spec (l : List Rat) : ∀ (m i bi k : Nat), i + m = l.length → bi < i →
    (∀ j, j < i → l[j]?.getD 0 ≤ l[bi]?.getD 0) → (∀ j, j < bi → l[j]?.getD 0 < l[bi]?.getD 0) →
    argmaxGo bi (l[bi]?.getD 0) i (l.drop i) = k →
    k < l.length ∧ (∀ j, j < l.length → l[j]?.getD 0 ≤ l[k]?.getD 0) ∧
      (∀ j, j < k → l[j]?.getD 0 < l[k]?.getD 0) := by
  intro m
  induction m with
  | zero =>
    intro i bi k hi hb hle hlt hk
    have hil : l.length ≤ i := Nat.le_of_eq hi.symm
    rw [List.drop_eq_nil_of_le hil, argmaxGo] at hk
    subst hk
    exact ⟨Nat.lt_of_lt_of_le hb (Nat.le_of_eq hi), fun j hj => hle j (Nat.lt_of_lt_of_le hj hil), hlt⟩
  | succ m ih =>
    intro i bi k hi hb hle hlt hk
    have hil : i < l.length := hi ▸ Nat.lt_add_of_pos_right (Nat.succ_pos m)
    have hi' : i + 1 + m = l.length := (Nat.add_right_comm i 1 m).trans hi
    have hx : l[i]?.getD 0 = l[i] := by simp [hil]
    rw [List.drop_eq_getElem_cons hil, argmaxGo, ← hx] at hk
    split at hk
    · rename_i hlt'
      refine ih (i + 1) i k hi' (Nat.lt_succ_self i) (fun j hj => ?_) (fun j hj => ?_) hk
      · by_cases hji : j = i
        · subst hji; exact Rat.le_refl
        · exact Rat.le_of_lt (Std.lt_of_le_of_lt (hle j (Nat.lt_of_le_of_ne (Nat.le_of_lt_succ hj) hji)) hlt')
      · exact Std.lt_of_le_of_lt (hle j hj) hlt'
    · rename_i hnlt
      refine ih (i + 1) bi k hi' (Nat.lt_succ_of_lt hb) (fun j hj => ?_) hlt hk
      by_cases hji : j = i
      · subst hji; exact Rat.not_lt.mp hnlt
      · exact hle j (Nat.lt_of_le_of_ne (Nat.le_of_lt_succ hj) hji)

theorem argmaxIdx_isFirstMax {l : List Rat} (hl : l ≠ []) :
    argmaxIdx l < l.length ∧
    (∀ j, j < l.length → l[j]?.getD 0 ≤ l[argmaxIdx l]?.getD 0) ∧
    (∀ j, j < argmaxIdx l → l[j]?.getD 0 < l[argmaxIdx l]?.getD 0) := by
  cases l with
  | nil => exact absurd rfl hl
  | cons x xs =>
    exact argmaxGo_spec (x :: xs) xs.length 1 0 _ (Nat.add_comm ..) Nat.one_pos
      (fun j hj => by rw [Nat.lt_one_iff.mp hj]; exact Rat.le_refl) (fun j hj => absurd hj (Nat.not_lt_zero j)) rfl

theorem argmaxIdx_lt_length {l : List Rat} (h : 0 < l.length) : argmaxIdx l < l.length :=
  (argmaxIdx_isFirstMax (List.ne_nil_of_length_pos h)).1

theorem argmaxIdx_ge {l : List Rat} (j : Nat) (hj : j < l.length) :
    l[j]?.getD 0 ≤ l[argmaxIdx l]?.getD 0 :=
  (argmaxIdx_isFirstMax (List.ne_nil_of_length_pos (Nat.zero_lt_of_lt hj))).2.1 j hj

theorem argmaxIdx_first {l : List Rat} (j : Nat) (hj : j < argmaxIdx l) :
    l[j]?.getD 0 < l[argmaxIdx l]?.getD 0 :=
  (argmaxIdx_isFirstMax (by rintro rfl; exact absurd hj (Nat.not_lt_zero j))).2.2 j hj

theorem argmaxIdx_eq_of_unique {l : List Rat} {k : Nat} (hk : k < l.length)
    (hmax : ∀ j, j < l.length → j ≠ k → l[j]?.getD 0 < l[k]?.getD 0) : argmaxIdx l = k :=
  Decidable.byContradiction fun hcon =>
    Rat.not_le.mpr (hmax _ (argmaxIdx_lt_length (Nat.zero_lt_of_lt hk)) hcon)
      (argmaxIdx_ge k hk)

theorem argminGo_eq_argmaxGo (bi : Nat) (bv : Rat) (i : Nat) (xs : List Rat) :
    argminGo bi bv i xs = argmaxGo bi (-bv) i (xs.map (- ·)) := by
  induction xs generalizing bi bv i with
  | nil => rfl
  | cons x xs ih => simp only [argminGo, argmaxGo, List.map_cons, Rat.neg_lt_neg_iff, ih]

theorem argminIdx_eq_argmaxIdx (l : List Rat) : argminIdx l = argmaxIdx (l.map (- ·)) := by
  cases l with
  | nil => rfl
  | cons x xs => exact argminGo_eq_argmaxGo 0 x 1 xs

theorem getD_map_neg (l : List Rat) (j : Nat) : (l.map (- ·))[j]?.getD 0 = -(l[j]?.getD 0) := by
  rw [List.getElem?_map]
  cases l[j]? <;> rfl

theorem argminIdx_isFirstMin {l : List Rat} (hl : l ≠ []) :
    argminIdx l < l.length ∧
    (∀ j, j < l.length → l[argminIdx l]?.getD 0 ≤ l[j]?.getD 0) ∧
    (∀ j, j < argminIdx l → l[argminIdx l]?.getD 0 < l[j]?.getD 0) := by
  have h := argmaxIdx_isFirstMax (l := l.map (- ·)) (by simpa using hl)
  simp only [← argminIdx_eq_argmaxIdx, getD_map_neg, List.length_map, Rat.neg_le_neg_iff,
    Rat.neg_lt_neg_iff] at h
  exact h

theorem argminIdx_lt_length {l : List Rat} (h : 0 < l.length) : argminIdx l < l.length :=
  (argminIdx_isFirstMin (List.ne_nil_of_length_pos h)).1

theorem argminIdx_le {l : List Rat} (j : Nat) (hj : j < l.length) :
    l[argminIdx l]?.getD 0 ≤ l[j]?.getD 0 :=
  (argminIdx_isFirstMin (List.ne_nil_of_length_pos (Nat.zero_lt_of_lt hj))).2.1 j hj

theorem argminIdx_first {l : List Rat} (j : Nat) (hj : j < argminIdx l) :
    l[argminIdx l]?.getD 0 < l[j]?.getD 0 :=
  (argminIdx_isFirstMin (by rintro rfl; exact absurd hj (Nat.not_lt_zero j))).2.2 j hj

theorem argminIdx_eq_of_unique {l : List Rat} {k : Nat} (hk : k < l.length)
    (hmin : ∀ j, j < l.length → j ≠ k → l[k]?.getD 0 < l[j]?.getD 0) : argminIdx l = k :=
  Decidable.byContradiction fun hcon =>
    Rat.not_le.mpr (hmin _ (argminIdx_lt_length (Nat.zero_lt_of_lt hk)) hcon)
      (argminIdx_le k hk)

theorem interior_length {α} (l : List α) : (interior l).length = l.length - 2 := by
  rw [interior, List.length_dropLast, List.length_drop]
  rfl

theorem interior_map {α β} (f : α → β) (l : List α) : interior (l.map f) = (interior l).map f := by
  simp [interior, List.map_dropLast]

/-- in the shape of `curvKnee_range`, `splitOf_interior` (and, for `argmin`, `dfdtInner_range`) with the
definition unfolded, so that those are this lemma; hence the idle first conjunct -/
theorem interior_argmax_range {d : List Rat} (h : 3 ≤ d.length) :
    1 ≤ 1 + argmaxIdx (interior d) ∧ 1 + argmaxIdx (interior d) + 2 ≤ d.length := by
  have hlt := argmaxIdx_lt_length (l := interior d) (by rw [interior_length]; exact Nat.sub_pos_of_lt h)
  rw [interior_length] at hlt
  exact ⟨Nat.le_add_right 1 _, by omega⟩

theorem interior_getD_pred {d : List Rat} {j : Nat} (h1 : 1 ≤ j) (h2 : j + 1 < d.length) :
    (interior d)[j - 1]?.getD 0 = d[j]?.getD 0 := by
  unfold interior
  rw [List.getElem?_dropLast, List.length_drop, if_pos (by omega), List.getElem?_drop, Nat.add_comm,
    Nat.sub_add_cancel h1]

theorem interior_argmax_ge {d : List Rat} (j : Nat) (h1 : 1 ≤ j)
    (h2 : j + 1 < d.length) : d[j]?.getD 0 ≤ d[1 + argmaxIdx (interior d)]?.getD 0 := by
  have hr := interior_argmax_range (d := d) (Nat.le_trans (Nat.add_le_add_right h1 2) h2)
  rw [← interior_getD_pred h1 h2, ← interior_getD_pred (Nat.le_add_right 1 _) (by omega),
    Nat.add_sub_cancel_left]
  exact argmaxIdx_ge _ (by rw [interior_length]; exact Nat.sub_lt_sub_right h1 (Nat.lt_sub_of_add_lt h2))

theorem interior_argmax_first {d : List Rat} (h : 3 ≤ d.length) (j : Nat) (h1 : 1 ≤ j)
    (h2 : j < 1 + argmaxIdx (interior d)) :
    d[j]?.getD 0 < d[1 + argmaxIdx (interior d)]?.getD 0 := by
  have hr := interior_argmax_range h
  rw [← interior_getD_pred h1 (by omega), ← interior_getD_pred (Nat.le_add_right 1 _) (by omega),
    Nat.add_sub_cancel_left]
  exact argmaxIdx_first _ (Nat.sub_lt_left_of_lt_add h1 h2)

theorem interior_argmax_eq_of_unique {d : List Rat} {k : Nat} (hk1 : 1 ≤ k) (hk2 : k + 1 < d.length)
    (hmax : ∀ j, 1 ≤ j → j + 1 < d.length → j ≠ k → d[j]?.getD 0 < d[k]?.getD 0) :
    1 + argmaxIdx (interior d) = k := by
  have hr := interior_argmax_range (d := d) (by omega)
  exact Decidable.byContradiction fun hne =>
    Rat.not_le.mpr (hmax _ hr.1 (by omega) hne) (interior_argmax_ge k hk1 hk2)

theorem interior_argmin_eq (d : List Rat) :
    argminIdx (interior d) = argmaxIdx (interior (d.map (- ·))) := by
  rw [argminIdx_eq_argmaxIdx, interior_map]

theorem interior_argmin_range {d : List Rat} (h : 3 ≤ d.length) :
    1 ≤ 1 + argminIdx (interior d) ∧ 1 + argminIdx (interior d) + 2 ≤ d.length := by
  have := interior_argmax_range (d := d.map (- ·)) (by rwa [List.length_map])
  rwa [← interior_argmin_eq, List.length_map] at this

theorem interior_argmin_le {d : List Rat} (j : Nat) (h1 : 1 ≤ j)
    (h2 : j + 1 < d.length) : d[1 + argminIdx (interior d)]?.getD 0 ≤ d[j]?.getD 0 := by
  have := interior_argmax_ge (d := d.map (- ·)) j h1 (by rwa [List.length_map])
  rwa [← interior_argmin_eq, getD_map_neg, getD_map_neg, Rat.neg_le_neg_iff] at this

theorem interior_argmin_first {d : List Rat} (h : 3 ≤ d.length) (j : Nat) (h1 : 1 ≤ j)
    (h2 : j < 1 + argminIdx (interior d)) :
    d[1 + argminIdx (interior d)]?.getD 0 < d[j]?.getD 0 := by
  have := interior_argmax_first (d := d.map (- ·)) (by rwa [List.length_map]) j h1
    (by rwa [← interior_argmin_eq])
  rwa [← interior_argmin_eq, getD_map_neg, getD_map_neg, Rat.neg_lt_neg_iff] at this

theorem interior_argmin_eq_of_unique {d : List Rat} {k : Nat} (hk1 : 1 ≤ k) (hk2 : k + 1 < d.length)
    (hmin : ∀ j, 1 ≤ j → j + 1 < d.length → j ≠ k → d[k]?.getD 0 < d[j]?.getD 0) :
    1 + argminIdx (interior d) = k := by
  rw [interior_argmin_eq]
  refine interior_argmax_eq_of_unique hk1 (by rwa [List.length_map]) fun j h1 h2 hjk => ?_
  rw [getD_map_neg, getD_map_neg, Rat.neg_lt_neg_iff]
  exact hmin j h1 (by rwa [List.length_map] at h2) hjk

theorem insertSorted_eq : insertSorted = insertBy (· ≤ ·) :=
  eq_insertBy (fun _ => rfl) fun _ _ _ => rfl

theorem mem_insertSorted {x y : Nat} {l : List Nat} : y ∈ insertSorted x l ↔ y = x ∨ y ∈ l := by
  rw [insertSorted_eq]
  exact mem_insertBy

theorem insertSorted_length (x : Nat) (l : List Nat) : (insertSorted x l).length = l.length + 1 := by
  rw [insertSorted_eq]
  exact length_insertBy x l

theorem sublist_insertSorted (x : Nat) (l : List Nat) : l.Sublist (insertSorted x l) := by
  rw [insertSorted_eq]
  exact sublist_insertBy x l

theorem insertSorted_pairwise {x : Nat} {l : List Nat} (h : l.Pairwise (· < ·)) (hx : x ∉ l) :
    (insertSorted x l).Pairwise (· < ·) := by
  rw [insertSorted_eq]
  exact insertBy_pairwise h (fun y hy hxy => Nat.lt_of_le_of_ne hxy fun e => hx (e ▸ hy))
    (fun y _ => Nat.lt_of_not_le) fun _ _ _ _ => Nat.lt_trans

theorem insertSorted_between {x a b : Nat} (A B : List Nat)
    (h : (A ++ a :: b :: B).Pairwise (· < ·)) (hax : a < x) (hxb : x < b) :
    insertSorted x (A ++ a :: b :: B) = A ++ a :: x :: b :: B := by
  have hA : ∀ y ∈ A ++ [a], ¬ x ≤ y := List.forall_mem_append.2
    ⟨fun y hy => Nat.not_le_of_lt (Nat.lt_trans ((List.pairwise_append.mp h).2.2 y hy a List.mem_cons_self) hax),
      fun y hy => List.mem_singleton.mp hy ▸ Nat.not_le_of_lt hax⟩
  rw [insertSorted_eq, List.append_cons A a, insertBy_append hA,
    insertBy_cons_pos (Nat.le_of_lt hxb)]
  exact (List.append_cons ..).symm

theorem not_mem_between {x a b : Nat} (A B : List Nat)
    (h : (A ++ a :: b :: B).Pairwise (· < ·)) (hax : a < x) (hxb : x < b) :
    x ∉ A ++ a :: b :: B := by
  rw [List.pairwise_append, List.pairwise_cons, List.pairwise_cons] at h
  obtain ⟨_, ⟨_, hb, _⟩, hA⟩ := h
  simp only [List.mem_append, List.mem_cons, not_or]
  exact ⟨fun hm => Nat.lt_asymm (hA x hm a List.mem_cons_self) hax, Nat.ne_of_gt hax, Nat.ne_of_lt hxb,
    fun hm => Nat.lt_asymm (hb x hm) hxb⟩

end Knee
