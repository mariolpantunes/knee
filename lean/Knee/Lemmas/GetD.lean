/-! Lists read the way the model reads them: `l[i]?.getD d`, `l.head?.getD d`, `l.getLast?.getD d`; sorted and
duplicate-free ones in particular, and the closed cycle `H ++ [H[0]]` by position.  Core Lean only. -/
namespace Knee

variable {α : Type} {l : List α} {i j : Nat} {d : α}

theorem getD_mem' (hi : i < l.length) : l[i]?.getD d ∈ l := by
  simp [List.getElem?_eq_getElem hi]

theorem getD_rel_of_pairwise {R : α → α → Prop} (h : l.Pairwise R) (hij : i < j) (hj : j < l.length) :
    R (l[i]?.getD d) (l[j]?.getD d) := by
  have hi : i < l.length := Nat.lt_trans hij hj
  simpa [List.getElem?_eq_getElem hi, List.getElem?_eq_getElem hj] using List.pairwise_iff_getElem.1 h i j hi hj hij

theorem pairwise_forall_ne {R : α → α → Prop} (hR : ∀ a b, R a b → R b a) (hl : l.Pairwise R) {a b : α}
    (ha : a ∈ l) (hb : b ∈ l) (hne : a ≠ b) : R a b :=
  List.Pairwise.forall_of_forall_of_flip (R := fun a b => a ≠ b → R a b)
    (fun _ _ h => absurd rfl h) (hl.imp fun {a b} h (_ : a ≠ b) => h)
    (hl.imp fun {a b} h (_ : b ≠ a) => hR a b h) ha hb hne

theorem nodup_getD_ne (hnd : l.Nodup) (hi : i < l.length) (hj : j < l.length) (hij : i ≠ j) :
    l[i]?.getD d ≠ l[j]?.getD d := by
  rcases Nat.lt_or_gt_of_ne hij with h | h
  · exact getD_rel_of_pairwise hnd h hj
  · exact (getD_rel_of_pairwise hnd h hi).symm

/-- the instance at `Nat` and `0`, which a `have` can state without naming the default -/
theorem getD_mem (s : List Nat) {i : Nat} (hi : i < s.length) : s[i]?.getD 0 ∈ s := getD_mem' hi

theorem strict_getD_le (s : List Nat) (hs : s.Pairwise (· < ·)) {i j : Nat} (hij : i ≤ j) (hj : j < s.length) :
    s[i]?.getD 0 ≤ s[j]?.getD 0 := by
  rcases Nat.lt_or_eq_of_le hij with h | rfl
  · exact Nat.le_of_lt (getD_rel_of_pairwise hs h hj)
  · exact Nat.le_refl _

/-- `strict_getD_le` for an index function `Nat → Rat` in place of a list -/
theorem le_of_strict {f : Nat → Rat} {n : Nat} (hf : ∀ i j, i < j → j < n → f i < f j) :
    ∀ i j, i ≤ j → j < n → f i ≤ f j := fun i j hij hj => by
  rcases Nat.lt_or_eq_of_le hij with h | rfl
  · exact Rat.le_of_lt (hf i j h hj)
  · exact Rat.le_refl

/-! A strictly increasing index list (`reduced`) read at a list of positions: what `rdp.mapping` returns on
the simplifier's own removed table (C07). -/
theorem map_getD_strict (s I : List Nat) (hs : s.Pairwise (· < ·)) (hI : I.Pairwise (· < ·))
    (hb : ∀ i ∈ I, i < s.length) : (I.map (fun i => s[i]?.getD 0)).Pairwise (· < ·) :=
  List.pairwise_map.2 (hI.imp_of_mem fun _ hj hij => getD_rel_of_pairwise hs hij (hb _ hj))

theorem map_getD_mono (s I : List Nat) (hs : s.Pairwise (· < ·)) (hI : I.Pairwise (· ≤ ·))
    (hb : ∀ i ∈ I, i < s.length) : (I.map (fun i => s[i]?.getD 0)).Pairwise (· ≤ ·) :=
  List.pairwise_map.2 (hI.imp_of_mem fun _ hj hij => strict_getD_le s hs hij (hb _ hj))

theorem le_getLast_of_pairwise {l : List Nat} {b : Nat} (hp : l.Pairwise (· < ·)) (hb : l.getLast? = some b) :
    ∀ x ∈ l, x ≤ b := by
  obtain ⟨ys, rfl⟩ := List.getLast?_eq_some_iff.mp hb
  intro x hx
  rcases List.mem_append.mp hx with hx | hx
  · exact Nat.le_of_lt ((List.pairwise_append.mp hp).2.2 x hx b (by simp))
  · exact Nat.le_of_eq (by simpa using hx)

theorem lt_of_getLast_pred {l : List Nat} {n : Nat} (hp : l.Pairwise (· < ·))
    (hb : l.getLast? = some (n - 1)) (hn : 0 < n) : ∀ x ∈ l, x < n := fun x hx =>
  Nat.lt_of_le_of_lt (le_getLast_of_pairwise hp hb x hx) (Nat.sub_lt hn Nat.one_pos)

theorem getD_range_map {f : Nat → α} {n : Nat} (hi : i < n) :
    ((List.range n).map f)[i]?.getD d = f i := by
  simp [hi]

theorem list_eq_map_range (l : List α) (d : α) : l = (List.range l.length).map fun j => l[j]?.getD d := by
  apply List.ext_getElem
  · simp
  · intro i h1 h2
    simp [h1]

theorem head_le_of_pairwise {a : Nat} {t : List Nat} (hp : (a :: t).Pairwise (· < ·)) :
    ∀ c ∈ a :: t, a ≤ c := by
  intro c hc
  rcases List.mem_cons.1 hc with rfl | hc
  · exact Nat.le_refl _
  · exact Nat.le_of_lt (List.rel_of_pairwise_cons hp hc)

theorem head?_getD_map {g : Rat → Rat} {l : List Rat} (hl : l ≠ []) :
    (l.map g).head?.getD 0 = g (l.head?.getD 0) := by
  cases l with
  | nil => exact absurd rfl hl
  | cons a l => rfl

theorem getLast?_getD_map {g : Rat → Rat} {l : List Rat} (hl : l ≠ []) :
    (l.map g).getLast?.getD 0 = g (l.getLast?.getD 0) := by
  rw [List.getLast?_map]
  cases h : l.getLast? with
  | none => exact absurd (List.getLast?_eq_none_iff.1 h) hl
  | some a => rfl

/-- the closed vertex cycle `H ++ [H[0]]` by position: edge `i` runs from `H[i]` to `H[(i + 1) % |H|]` -/
theorem cycle_getD (H : List Nat) {i : Nat} (hi : i + 1 < (H ++ [H[0]?.getD 0]).length) :
    i < H.length ∧ (H ++ [H[0]?.getD 0])[i]?.getD 0 = H[i]?.getD 0 ∧
      (H ++ [H[0]?.getD 0])[i + 1]?.getD 0 = H[(i + 1) % H.length]?.getD 0 := by
  have hlen : i < H.length := by
    rw [List.length_append] at hi
    exact Nat.lt_of_succ_lt_succ hi
  refine ⟨hlen, by rw [List.getElem?_append_left hlen], ?_⟩
  rcases Nat.lt_or_ge (i + 1) H.length with h | h
  · rw [List.getElem?_append_left h, Nat.mod_eq_of_lt h]
  · have e : i + 1 = H.length := Nat.le_antisymm hlen h
    rw [e, List.getElem?_append_right (Nat.le_refl _), Nat.mod_self, Nat.sub_self]
    rfl

theorem succ_mod_ne {n i : Nat} (hn : 2 ≤ n) (hi : i < n) : (i + 1) % n ≠ i := by
  rcases Nat.lt_or_ge (i + 1) n with h | h
  · rw [Nat.mod_eq_of_lt h]; omega
  · have e : i + 1 = n := by omega
    rw [e, Nat.mod_self]; omega

end Knee
