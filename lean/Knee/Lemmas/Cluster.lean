import Knee.Model.Cluster
import Knee.Lemmas.Rabs
import Mathlib.Algebra.Order.Field.Rat
/-! The linkage skeleton as a sequence of states: `linkState k` = (start of the current cluster, its
label) after point `k`.  All of C11 is proved about `linkState` and carried to the model's `linkGo` /
`linkLabels` by `linkLabels_eq_map`.  Then the exact linkage distances (Layer N). -/
namespace Knee

def linkState (dist : Nat → Nat → Rat) (t : Rat) : Nat → Nat × Nat
  | 0 => (0, 0)
  | k + 1 =>
    let s := linkState dist t k
    if t ≤ dist s.1 (k + 1) then (k + 1, s.2 + 1) else s

section
variable (dist : Nat → Nat → Rat) (t : Rat)

theorem linkGo_eq_map (fuel k : Nat) :
    linkGo dist t fuel (k + 1) (linkState dist t k).1 (linkState dist t k).2
      = (List.range' (k + 1) fuel).map fun i => (linkState dist t i).2 := by
  induction fuel generalizing k with
  | zero => rfl
  | succ f ih =>
    rw [List.range'_succ, List.map_cons, ← ih (k + 1), linkGo, linkState]
    split <;> rfl

theorem linkLabels_eq_map (n : Nat) :
    linkLabels dist t n = (List.range n).map fun i => (linkState dist t i).2 := by
  cases n with
  | zero => rfl
  | succ n =>
    rw [List.range_eq_range', List.range'_succ, List.map_cons]
    exact congrArg _ (linkGo_eq_map dist t n 0)

theorem linkLabels_getD {n i : Nat} (hi : i < n) :
    (linkLabels dist t n)[i]?.getD 0 = (linkState dist t i).2 := by
  simp [linkLabels_eq_map, hi]

theorem linkState_label_mono {i j : Nat} (h : i ≤ j) :
    (linkState dist t i).2 ≤ (linkState dist t j).2 := by
  induction h with
  | refl => exact Nat.le_refl _
  | step _ ih =>
    rw [linkState]
    split
    · exact Nat.le_succ_of_le ih
    · exact ih

/-- the start component is the FIRST point that carries the current label (what `labels_rule` needs
to read `idxOf`) -/
theorem linkState_start (k : Nat) :
    (linkState dist t k).1 ≤ k ∧
    (linkState dist t (linkState dist t k).1).2 = (linkState dist t k).2 ∧
    ∀ m, m < (linkState dist t k).1 → (linkState dist t m).2 < (linkState dist t k).2 := by
  fun_induction linkState dist t k with
  | case1 => exact ⟨Nat.le_refl _, rfl, fun m hm => absurd hm (Nat.not_lt_zero m)⟩
  | case2 k s hd =>
    -- point `k + 1` opens a cluster and is its start: its own label is that of the branch taken
    exact ⟨Nat.le_refl _, congrArg Prod.snd (if_pos hd), fun m hm =>
      Nat.lt_succ_of_le (linkState_label_mono dist t (Nat.le_of_lt_succ hm))⟩
  | case3 k s _ ih => exact ⟨Nat.le_succ_of_le ih.1, ih.2⟩

theorem idxOf_range_map (f : Nat → Nat) {n s : Nat} (hs : s < n) (hm : ∀ m, m < s → f m ≠ f s) :
    ((List.range n).map f).idxOf (f s) = s := by
  rw [List.idxOf, List.findIdx_eq (by rw [List.length_map, List.length_range]; exact hs)]
  simp only [List.getElem_map, List.getElem_range, beq_self_eq_true, true_and]
  exact fun j hj => beq_false_of_ne (hm j hj)

theorem clusterCount_linkLabels {n : Nat} (hn : 0 < n) :
    clusterCount (linkLabels dist t n) = (linkState dist t (n - 1)).2 + 1 := by
  obtain ⟨k, rfl⟩ := Nat.exists_eq_add_of_le' hn
  rw [clusterCount, linkLabels_eq_map, List.range_succ, List.map_append, List.map_singleton,
    List.getLast?_concat]
  rfl

/-- Greedy stays ahead.  If the oracle is antitone in the cluster start, the walk with the larger
threshold `t'` is behind after every point: its label is smaller, or equal with a later start. -/
theorem linkState_antitone (n : Nat)
    (hanti : ∀ s s' i, s ≤ s' → s' ≤ i → i < n → dist s' i ≤ dist s i) (t' : Rat) (htt : t ≤ t') :
    ∀ k, k < n → (linkState dist t' k).2 < (linkState dist t k).2 ∨
      ((linkState dist t' k).2 = (linkState dist t k).2 ∧
        (linkState dist t k).1 ≤ (linkState dist t' k).1) := by
  intro k
  induction k with
  | zero => exact fun _ => Or.inr ⟨rfl, Nat.le_refl _⟩
  | succ k ih =>
    intro hk
    have ih := ih (Nat.lt_of_succ_lt hk)
    have hs := (linkState_start dist t k).1
    have hs' := (linkState_start dist t' k).1
    rw [linkState, linkState]
    generalize linkState dist t k = p, linkState dist t' k = p' at *
    by_cases h' : t' ≤ dist p'.1 (k + 1)
    · by_cases h : t ≤ dist p.1 (k + 1)
      · -- both open a cluster at `k + 1`: labels + 1 on both sides, starts equal
        rw [if_pos h', if_pos h]
        exact ih.elim (fun hlt => Or.inl (Nat.succ_lt_succ hlt))
          fun heq => Or.inr ⟨congrArg Nat.succ heq.1, Nat.le_refl _⟩
      · -- only the walk with `t'` starts a new cluster: it must have been strictly behind
        rw [if_pos h', if_neg h]
        rcases ih with hlt | ⟨_, hss⟩
        · exact (Nat.lt_or_eq_of_le hlt).imp id fun e => ⟨e, Nat.le_succ_of_le hs⟩
        · exact absurd (Rat.le_trans htt
            (Rat.le_trans h' (hanti _ _ _ hss (Nat.le_succ_of_le hs') hk))) h
    · by_cases h : t ≤ dist p.1 (k + 1)
      · -- only the walk with `t` opens a cluster: its label grows, `t'` is strictly behind
        rw [if_neg h', if_pos h]
        exact Or.inl (ih.elim Nat.lt_succ_of_lt fun heq => heq.1 ▸ Nat.lt_succ_self _)
      · rw [if_neg h', if_neg h]
        exact ih

end

theorem sumRange_succ (f : Nat → Rat) (a b : Nat) (h : a ≤ b) :
    sumRange f a (b + 1) = sumRange f a b + f b := by
  unfold sumRange
  rw [Nat.succ_sub h, List.range_succ, List.map_append, List.foldl_append]
  simp [Nat.add_sub_of_le h]

theorem centroidInc_succ (x : Nat → Rat) (start k : Nat) :
    centroidInc x start (k + 1) =
      (((centroidInc x start k).2 : Rat) / ((centroidInc x start k).2 + 1) * (centroidInc x start k).1
        + 1 / (((centroidInc x start k).2 : Rat) + 1) * x (start + k + 1),
       (centroidInc x start k).2 + 1) := rfl

theorem meanRange_add_succ (x : Nat → Rat) (s k : Nat) :
    meanRange x s (s + k + 1) = sumRange x s (s + k + 1) / ((k + 1 : Nat) : Rat) := by
  rw [meanRange, Nat.add_assoc, Nat.add_sub_cancel_left]

/-- = `centroid_is_mean` (C11); under this name for `Props/Invariance.lean` -/
theorem centroidInc_spec (x : Nat → Rat) (start : Nat) :
    ∀ k, (centroidInc x start k).2 = k + 1 ∧
      (centroidInc x start k).1 = meanRange x start (start + k + 1) := by
  intro k
  induction k with
  | zero =>
    refine ⟨rfl, ?_⟩
    rw [meanRange_add_succ x start 0, sumRange_succ x start start (Nat.le_refl _)]
    simp [sumRange, centroidInc]
  | succ k ih =>
    obtain ⟨h2, h1⟩ := ih
    have hk : ((k + 1 : Nat) : Rat) ≠ 0 := Nat.cast_ne_zero.2 (Nat.succ_ne_zero k)
    rw [centroidInc_succ, h2, h1]
    refine ⟨rfl, ?_⟩
    -- with `s = k + 1` members of sum `S`:  s/(s+1) · S/s + 1/(s+1) · x = (S + x)/(s+1)
    rw [meanRange_add_succ, meanRange_add_succ, ← Nat.add_assoc start k 1,
      sumRange_succ x start (start + k + 1) (by omega), Nat.cast_succ (k + 1),
      div_mul_div_comm, mul_comm _ (sumRange _ _ _), mul_div_mul_right _ _ hk, one_div,
      inv_mul_eq_div, ← add_div]

theorem distComplete_antitone_start (x : Nat → Rat) (n : Nat)
    (hmono : ∀ a b, a ≤ b → b < n → x a ≤ x b) :
    ∀ s s' i, s ≤ s' → s' ≤ i → i < n →
      distComplete x (x (n - 1) - x 0) s' i ≤ distComplete x (x (n - 1) - x 0) s i := by
  intro s s' i hss hsi hin
  have h1 := hmono s s' hss (Nat.lt_of_le_of_lt hsi hin)
  have h2 := hmono s' i hsi hin
  unfold distComplete
  rw [rabs_of_nonneg (sub_nonneg.2 h2), rabs_of_nonneg (sub_nonneg.2 (h1.trans h2))]
  exact div_le_div_of_nonneg_right (sub_le_sub_left h1 _)
    (sub_nonneg.2 (hmono 0 (n - 1) (Nat.zero_le _)
      (Nat.sub_lt (Nat.zero_lt_of_lt hin) Nat.one_pos)))

/-- the skeleton only asks for `d start i` with `start < i` (`linkState_start`) -/
theorem linkState_congr (d d' : Nat → Nat → Rat) (t : Rat)
    (h : ∀ start i, start < i → d start i = d' start i) : ∀ k, linkState d t k = linkState d' t k
  | 0 => rfl
  | k + 1 => by
    rw [linkState, linkState, ← linkState_congr d d' t h k,
      h _ _ (Nat.lt_succ_of_le (linkState_start d t k).1)]

theorem linkLabels_congr (d d' : Nat → Nat → Rat) (t : Rat) (n : Nat)
    (h : ∀ start i, start < i → d start i = d' start i) :
    linkLabels d t n = linkLabels d' t n := by
  simp only [linkLabels_eq_map, linkState_congr d d' t h]

end Knee
