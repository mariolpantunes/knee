import Knee.Model.Basic
/-! `rabs` without Mathlib, for the modules that stay core-only; `rabs_eq_abs` (Lemmas/AbsMaxMin) is the way in
where Mathlib's `|·|` is at hand. -/
namespace Knee

theorem rabs_of_nonneg {a : Rat} (h : 0 ≤ a) : rabs a = a := if_pos h

theorem rabs_of_nonpos {a : Rat} (h : a ≤ 0) : rabs a = -a := by
  unfold rabs; split <;> rename_i h0
  · rw [Rat.le_antisymm h h0]; rfl
  · rfl

theorem rabs_zero : rabs 0 = 0 := rabs_of_nonneg Rat.le_refl

theorem rabs_nonneg (x : Rat) : 0 ≤ rabs x := by
  unfold rabs; split <;> rename_i h
  · exact h
  · exact Rat.le_neg_iff.2 (Rat.neg_zero ▸ Rat.le_of_lt (Rat.not_le.1 h))

theorem rabs_sub_comm (a b : Rat) : rabs (a - b) = rabs (b - a) := by
  unfold rabs; grind

theorem rabs_sub_of_le {a b : Rat} (h : a ≤ b) : rabs (a - b) = b - a := by
  unfold rabs; split <;> grind

theorem le_rabs (a : Rat) : a ≤ rabs a := by
  unfold rabs; split <;> grind

/-- `a` lies outside the open band of half-width `w` around `b` -/
theorem le_rabs_sub_iff {w a b : Rat} : w ≤ rabs (b - a) ↔ a ≤ b - w ∨ b + w ≤ a := by
  unfold rabs; split <;> grind

end Knee
