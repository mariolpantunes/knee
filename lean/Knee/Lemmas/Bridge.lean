import Knee.Model.RdpM
import Knee.Model.DetectM
import Knee.Model.PostM
/-! Bridging lemmas: each monadic twin loop, run at `Id` with pure oracles, *is* the pure loop, and so is each
twin built from them (`dfdtKneeM`, `lmethodKneeM` are their loops at the initial arguments, by definition). -/
namespace Knee

theorem segCostM_id (isR2 : Bool) (cst : Nat → Nat → Rat) (l r : Nat) :
    segCostM (m := Id) isR2 (fun l r => pure (cst l r)) l r = pure (segCost isR2 cst l r) := by
  unfold segCostM segCost; split <;> rfl

theorem rdpLoopM_id (isR2 : Bool) (t : Rat) (cst : Nat → Nat → Rat) (dst : Nat → Nat → List Rat) :
    ∀ (f : Nat) (st out : List (Nat × Nat)),
      rdpLoopM (m := Id) isR2 t (fun l r => pure (cst l r)) (fun l r => pure (dst l r)) f st out
        = pure (rdpLoop isR2 t cst dst f st out) := by
  intro f
  induction f with
  | zero => intro st out; rfl
  | succ f ih =>
    intro st out
    match st with
    | [] => rfl
    | (l, r) :: st' =>
      simp only [rdpLoopM, rdpLoop, segCostM_id, pure_bind]
      split <;> exact ih _ _

theorem rdpM_id (isR2 : Bool) (t : Rat) (cst : Nat → Nat → Rat) (dst : Nat → Nat → List Rat) (n : Nat) :
    rdpM (m := Id) isR2 t (fun l r => pure (cst l r)) (fun l r => pure (dst l r)) n = pure (rdp isR2 t cst dst n) := by
  simp only [rdpM, rdp, rdpLoopM_id, pure_bind]

theorem refineStepM_id (dst : Nat → Nat → List Rat) (key : Nat → Nat → Nat → Rat × Rat) (s : RState) :
    refineStepM (m := Id) (fun l r => pure (dst l r)) (fun l r i => pure (key l r i)) s = pure (refineStep dst key s) := by
  unfold refineStepM refineStep
  cases h : s.stack.getLast? with
  | none => rfl
  | some top =>
    obtain ⟨k, l, r⟩ := top
    simp only [pure_bind]

theorem fixedLoopM_id (dst : Nat → Nat → List Rat) (key : Nat → Nat → Nat → Rat × Rat) :
    ∀ (k : Nat) (s : RState),
      fixedLoopM (m := Id) (fun l r => pure (dst l r)) (fun l r i => pure (key l r i)) k s = pure (fixedLoop dst key k s) := by
  intro k
  induction k with
  | zero => intro s; rfl
  | succ k ih =>
    intro s
    simp only [fixedLoopM, fixedLoop, refineStepM_id, pure_bind, ih]
    split <;> rfl

theorem grdpLoopM_id (accept : List Nat → Bool) (dst : Nat → Nat → List Rat) (key : Nat → Nat → Nat → Rat × Rat) :
    ∀ (f : Nat) (s : RState),
      grdpLoopM (m := Id) (fun red => pure (accept red)) (fun l r => pure (dst l r)) (fun l r i => pure (key l r i)) f s
        = pure (grdpLoop accept dst key f s) := by
  intro f
  induction f with
  | zero => intro s; rfl
  | succ f ih =>
    intro s
    simp only [grdpLoopM, grdpLoop, refineStepM_id, pure_bind, ih]
    split <;> rfl

theorem mpGrdpM_id (accept : List Nat → Bool) (dst : Nat → Nat → List Rat) (key : Nat → Nat → Nat → Rat × Rat) (n mp : Nat) :
    mpGrdpM (m := Id) (fun red => pure (accept red)) (fun l r => pure (dst l r)) (fun l r i => pure (key l r i)) n mp
      = pure (mpGrdp accept dst key n mp) := by
  simp only [mpGrdpM, mpGrdp, grdpLoopM_id, fixedLoopM_id, pure_bind]
  split <;> rfl

theorem minPointRdpM_id (acceptAt : Rat → List Nat → Bool) (dst : Nat → Nat → List Rat) (key : Nat → Nat → Nat → Rat × Rat) (n mp : Nat) :
    ∀ ts, minPointRdpM (m := Id) (fun t red => pure (acceptAt t red)) (fun l r => pure (dst l r)) (fun l r i => pure (key l r i)) n mp ts
      = pure (minPointRdp acceptAt dst key n mp ts) := by
  intro ts
  induction ts with
  | nil => simp only [minPointRdpM, minPointRdp, rdpFixed, fixedLoopM_id, pure_bind]
  | cons t ts ih =>
    simp only [minPointRdpM, minPointRdp, grdp, grdpLoopM_id, pure_bind, ih]
    split <;> rename_i h <;> simp only [h, if_true, if_false]

theorem dfdtLoopM_id (diffs : Nat → List Rat) (n : Nat) : ∀ (f : Nat) (last : Int) (knee cutoff : Nat),
    dfdtLoopM (m := Id) (fun c => pure (diffs c)) n f last knee cutoff = pure (dfdtLoop diffs n f last knee cutoff) := by
  intro f
  induction f with
  | zero => intros; rfl
  | succ f ih =>
    intro last knee cutoff
    simp only [dfdtLoopM, dfdtLoop, pure_bind, ih]
    split <;> rfl

theorem lmethodLoopM_id (errs : Nat → List Rat) (mode : Refinement) (n limit : Nat) :
    ∀ (f : Nat) (last : Int) (cur cutoff : Nat) (done : Bool),
    lmethodLoopM (m := Id) (fun c => pure (errs c)) mode n limit f last cur cutoff done
      = pure (lmethodLoop errs mode n limit f last cur cutoff done) := by
  intro f
  induction f with
  | zero => intros; rfl
  | succ f ih =>
    intro last cur cutoff done
    simp only [lmethodLoopM, lmethodLoop, pure_bind]
    split
    · cases mode <;> simp only [ih]
    · rfl

theorem multiKneeLoopM_id (det : Nat → Nat → Option Nat) (gate : Nat → Nat → Bool) (t2 : Nat) :
    ∀ (f : Nat) (st : List (Nat × Nat)) (acc : List Nat),
    multiKneeLoopM (m := Id) (fun l r => pure (det l r)) (fun l r => pure (gate l r)) t2 f st acc
      = pure (multiKneeLoop det gate t2 f st acc) := by
  intro f
  induction f with
  | zero => intros; rfl
  | succ f ih =>
    intro st acc
    match st with
    | [] => rfl
    | (l, r) :: st' =>
      simp only [multiKneeLoopM, multiKneeLoop, pure_bind]
      -- the twin tests the size before it asks `gate` (Python's `and`: the oracle is asked on large ranges
      -- only), the pure loop tests the conjunction
      by_cases h1 : r - l > t2
      · by_cases h2 : gate l r = true
        · rw [if_pos h1, if_pos h2, if_pos ⟨h1, h2⟩]
          cases det l r <;> exact ih _ _
        · rw [if_pos h1, if_neg h2, if_neg fun h => h2 h.2]
          exact ih _ _
      · rw [if_neg h1, if_neg fun h => h1 h.1]
        exact ih _ _

theorem multiKneeM_id (det : Nat → Nat → Option Nat) (gate : Nat → Nat → Bool) (t2 n : Nat) :
    multiKneeM (m := Id) (fun l r => pure (det l r)) (fun l r => pure (gate l r)) t2 n = pure (multiKnee det gate t2 n) := by
  simp only [multiKneeM, multiKnee, multiKneeLoopM_id, pure_bind]

theorem linkGoM_id (dist : Nat → Nat → Rat) (t : Rat) : ∀ (fuel i start label : Nat),
    linkGoM (m := Id) (fun s i => pure (dist s i)) t fuel i start label = pure (linkGo dist t fuel i start label) := by
  intro fuel
  induction fuel with
  | zero => intros; rfl
  | succ f ih =>
    intro i start label
    simp only [linkGoM, linkGo, pure_bind, ih]
    split <;> rfl

theorem linkLabelsM_id (dist : Nat → Nat → Rat) (t : Rat) (n : Nat) :
    linkLabelsM (m := Id) (fun s i => pure (dist s i)) t n = pure (linkLabels dist t n) := by
  unfold linkLabelsM linkLabels
  split
  · rfl
  · simp only [linkGoM_id, pure_bind]

/-- the oracle of the twin answers with the whole row of distances from `e` to the `nk` knees -/
theorem cmGoM_id (d : Nat → Nat → Rat) (t : Rat) (nk : Nat) : ∀ (es : List Nat) (s : Nat × Nat × List Nat),
    cmGoM (m := Id) (fun e => pure ((List.range nk).map (d e))) t es s = pure (cmGo d t nk es s) := by
  intro es
  induction es with
  | nil => intro s; rfl
  | cons e es ih =>
    intro s
    obtain ⟨tp, fn, used⟩ := s
    simp only [cmGoM, cmGo, pure_bind]
    split <;> exact ih _

theorem cmM_id (d : Nat → Nat → Rat) (t : Rat) (n nk ne : Nat) :
    cmM (m := Id) (fun e => pure ((List.range nk).map (d e))) t n nk ne = pure (cm d t n nk ne) := by
  simp only [cmM, cm, cmGoM_id, pure_bind]

end Knee
