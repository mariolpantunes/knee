import Knee.Model.ClusterFilter
import Knee.Lemmas.Basic
import Knee.Lemmas.Rank
import Mathlib.Data.List.SplitBy
/-!
For C12: `groupByLabels` is core `List.splitBy` on the labels (`groupByLabels_eq_splitBy`); each of
the three cluster filters is a `filterMap` of a per-group picker (`rankPick`, `hullPick`,
`cornerPick`, the model's inline lambdas under a name) over the groups; `pickByRank` is `argmaxIdx`
of `ranksQ`, a maximiser of the scores (`argmax_ranksQ_max`).  For `Lemmas/BridgeCfg`: the `*_congr` lemmas.
-/
namespace Knee

/-- Mathlib's `List.splitByLoop_eq_append`, which is `private` there -/
theorem splitBy_loop_acc {α : Type} (r : α → α → Bool) (l : List α) (a : α) (g : List α)
    (gs : List (List α)) :
    List.splitBy.loop r l a g gs = gs.reverse ++ List.splitBy.loop r l a g [] := by
  induction l generalizing a g gs with
  | nil => simp [List.splitBy.loop]
  | cons b l ih =>
    simp only [List.splitBy.loop]
    cases r a b
    · simp only
      rw [ih, ih _ _ [_]]
      simp
    · simp only
      rw [ih]

/-- `groupGo` keeps the current group of knees reversed in `cur`; `splitBy.loop` keeps its last pair `a`
apart from the reversed rest `g`.  With `a = (lab, k0)` and `cur = k0 :: g.map (·.2)` the two agree, and
`cur` is never empty, so both `isEmpty` branches of the model vanish. -/
theorem groupGo_eq_loop (ls ks : List Nat) (lab k0 : Nat) (g : List (Nat × Nat)) :
    groupGo ls ks lab (k0 :: g.map (·.2))
      = (List.splitBy.loop (fun a b => a.1 == b.1) (ls.zip ks) (lab, k0) g []).map (·.map (·.2)) := by
  induction ls generalizing ks lab k0 g with
  | nil => simp [groupGo, List.splitBy.loop]
  | cons l ls ih =>
    cases ks with
    | nil => simp [groupGo, List.splitBy.loop]
    | cons k ks =>
      simp only [groupGo, List.zip_cons_cons, List.splitBy.loop]
      by_cases h : l = lab
      · subst h
        simp only [if_true, beq_self_eq_true]
        exact ih ks l k ((l, k0) :: g)
      · have h' : (lab == l) = false := beq_false_of_ne fun e => h e.symm
        simp only [if_neg h, h']
        rw [splitBy_loop_acc, List.map_append, ← ih ks l k []]
        simp

/-- the groups are the maximal runs of equal labels -/
theorem groupByLabels_eq_splitBy (labels knees : List Nat) :
    groupByLabels labels knees =
      ((labels.zip knees).splitBy fun a b => a.1 == b.1).map (·.map (·.2)) := by
  cases labels with
  | nil => rfl
  | cons l ls =>
    cases knees with
    | nil => simp [groupByLabels, groupGo]
    | cons k ks =>
      simp only [groupByLabels, groupGo, if_true, List.zip_cons_cons, List.splitBy]
      exact groupGo_eq_loop ls ks l k []

theorem groupByLabels_singleton (l k : Nat) : groupByLabels [l] [k] = [[k]] := by
  simp only [groupByLabels, groupGo, if_true, List.isEmpty_cons, Bool.false_eq_true, if_false,
    List.reverse_singleton]

theorem filterMap_pick_sublist {α : Type} (f : List α → Option α)
    (hf : ∀ c k, f c = some k → k ∈ c) (G : List (List α)) :
    (G.filterMap f).Sublist G.flatten := by
  fun_induction List.filterMap f G with
  | case1 => exact .slnil
  | case2 c G _ ih => exact ih.trans (List.sublist_append_right _ _)
  | case3 c G k hfc ih => exact (List.singleton_sublist.2 (hf c k hfc)).append ih

/-- group `i` is read as `G[i]?.getD []`, the way the C12 statements read the groups -/
theorem filterMap_all_some {α β : Type} (f : List α → Option β) (G : List (List α))
    (hf : ∀ c ∈ G, ∃ k, f c = some k) :
    (G.filterMap f).length = G.length ∧
      ∀ i, i < G.length → ∃ k, (G.filterMap f)[i]? = some k ∧ f (G[i]?.getD []) = some k := by
  induction G with
  | nil => exact ⟨rfl, fun i hi => absurd hi (Nat.not_lt_zero i)⟩
  | cons c G ih =>
    obtain ⟨k, hk⟩ := hf c List.mem_cons_self
    obtain ⟨ih1, ih2⟩ := ih fun c hc => hf c (List.mem_cons_of_mem _ hc)
    rw [List.filterMap_cons, hk]
    refine ⟨congrArg Nat.succ ih1, fun i hi => ?_⟩
    cases i with
    | zero => exact ⟨k, rfl, hk⟩
    | succ i => exact ih2 i (Nat.lt_of_succ_lt_succ hi)

theorem of_ite_eq_some {α : Type} {P c : Prop} [Decidable c] {a b : Option α} {k : α}
    (ha : a = some k → P) (hb : b = some k → P) (h : (if c then a else b) = some k) : P := by
  by_cases hc : c
  · exact ha ((if_pos hc).symm.trans h)
  · exact hb ((if_neg hc).symm.trans h)

/-- the ranks as rationals, as passed to `argmaxIdx` in `pickByRank` (`pickByRank_eq`) -/
def ranksQ (scores : List Rat) : List Rat :=
  (rankOf scores).map fun (r : Nat) => ((r : Int) : Rat)

theorem pickByRank_eq (scores : List Rat) (c : List Nat) :
    pickByRank scores c = c[argmaxIdx (ranksQ scores)]? := rfl

theorem ranksQ_length (scores : List Rat) : (ranksQ scores).length = scores.length := by
  rw [ranksQ, List.length_map, rankOf_length]

theorem ranksQ_getD (scores : List Rat) {i : Nat} (hi : i < scores.length) :
    (ranksQ scores)[i]?.getD 0 = (((rk scores i : Nat) : Int) : Rat) := by
  simp [ranksQ, rankOf_eq, hi]

theorem argmax_ranksQ_lt (scores : List Rat) (hne : scores ≠ []) :
    argmaxIdx (ranksQ scores) < scores.length := by
  have := argmaxIdx_lt_length (l := ranksQ scores)
    (by rw [ranksQ_length]; exact List.length_pos_iff.2 hne)
  rwa [ranksQ_length] at this

theorem argmax_ranksQ_max (scores : List Rat) (j : Nat) (hj : j < scores.length) :
    scores[j]?.getD 0 ≤ scores[argmaxIdx (ranksQ scores)]?.getD 0 := by
  have hi := argmax_ranksQ_lt scores (List.ne_nil_of_length_pos (Nat.zero_lt_of_lt hj))
  have hge := argmaxIdx_ge (l := ranksQ scores) j (by rw [ranksQ_length]; exact hj)
  rw [ranksQ_getD scores hj, ranksQ_getD scores hi] at hge
  have hle : rk scores j ≤ rk scores (argmaxIdx (ranksQ scores)) :=
    Int.ofNat_le.1 (Rat.intCast_le_intCast.1 hge)
  -- a strictly larger score would have a strictly larger rank
  by_contra hlt
  exact Nat.not_lt.2 hle (rk_lt_of_lt scores hi (Rat.not_le.1 hlt))

def rankPick (score : List Nat → List Rat) (c : List Nat) : Option Nat :=
  if c.length > 1 then pickByRank (score c) c else c.head?

def hullPick (hull : List Nat) (herr : List Nat → Nat → Rat) (c : List Nat) : Option Nat :=
  if c.length > 1 then
    let a := c.head?.getD 0
    let b := c.getLast?.getD 0
    let hw := hull.filter fun h => a ≤ h ∧ h ≤ b
    if hw.length > 1 then pickByRank (hullScores hw herr c) c
    else if hw.length = 1 then pickByRank (c.map fun j => if j ∈ hw then (1 : Rat) else 0) c
    else none
  else
    match c.head? with
    | some k => if k ∈ hull then some k else none
    | none => none

def cornerPick (area : List Nat → List Rat) (c : List Nat) : Option Nat :=
  c[argmaxIdx (area c)]?

theorem clusterFilter_eq (score : List Nat → List Rat) (labels knees : List Nat) :
    clusterFilter score labels knees =
      if knees.length ≤ 1 then knees else
        (groupByLabels labels knees).filterMap (rankPick score) := rfl

theorem clusterFilterHull_eq (hull : List Nat) (herr : List Nat → Nat → Rat)
    (labels knees : List Nat) :
    clusterFilterHull hull herr labels knees =
      if knees.length ≤ 1 then knees else
        (groupByLabels labels knees).filterMap (hullPick hull herr) := rfl

theorem clusterFilterCorners_eq (area : List Nat → List Rat) (labels knees : List Nat) :
    clusterFilterCorners area labels knees =
      (groupByLabels labels knees).filterMap (cornerPick area) := rfl

theorem rankPick_of_lt {score : List Nat → List Rat} {c : List Nat} (hc : 1 < c.length) :
    rankPick score c = pickByRank (score c) c := if_pos hc

theorem rankPick_of_le {score : List Nat → List Rat} {c : List Nat} (hc : c.length ≤ 1) :
    rankPick score c = c.head? := if_neg (Nat.not_lt.2 hc)

theorem rankPick_mem {score : List Nat → List Rat} {c : List Nat} {k : Nat}
    (h : rankPick score c = some k) : k ∈ c := by
  by_cases hc : 1 < c.length
  · rw [rankPick_of_lt hc] at h
    exact List.mem_of_getElem? h
  · rw [rankPick_of_le (Nat.not_lt.1 hc)] at h
    exact List.mem_of_mem_head? h

theorem clusterFilter_congr {score score' : List Nat → List Rat} {labels knees : List Nat}
    (h : ∀ c ∈ groupByLabels labels knees, 1 < c.length → score c = score' c) :
    clusterFilter score labels knees = clusterFilter score' labels knees := by
  rw [clusterFilter_eq, clusterFilter_eq, List.filterMap_congr fun c hc => ?_]
  by_cases hl : 1 < c.length
  · rw [rankPick_of_lt hl, rankPick_of_lt hl, h c hc hl]
  · rw [rankPick_of_le (Nat.not_lt.1 hl), rankPick_of_le (Nat.not_lt.1 hl)]

theorem hullScores_congr {herr herr' : List Nat → Nat → Rat} (hw c : List Nat)
    (h : ∀ j ∈ c, herr c j = herr' c j) : hullScores hw herr c = hullScores hw herr' c := by
  unfold hullScores
  rw [List.map_congr_left (g := fun j => if j ∈ hw then herr' c j else (-1 : Rat))
    fun j hj => by rw [h j hj]]

theorem clusterFilterHull_congr {hull : List Nat} {herr herr' : List Nat → Nat → Rat}
    {labels knees : List Nat}
    (h : ∀ c ∈ groupByLabels labels knees, 1 < c.length → ∀ j ∈ c, herr c j = herr' c j) :
    clusterFilterHull hull herr labels knees = clusterFilterHull hull herr' labels knees := by
  rw [clusterFilterHull_eq, clusterFilterHull_eq, List.filterMap_congr fun c hc => ?_]
  by_cases hl : 1 < c.length
  · simp only [hullPick, hullScores_congr _ c (h c hc hl)]
  · simp only [hullPick, if_neg hl]

theorem clusterFilterCorners_congr {area area' : List Nat → List Rat} {labels knees : List Nat}
    (h : ∀ c ∈ groupByLabels labels knees, area c = area' c) :
    clusterFilterCorners area labels knees = clusterFilterCorners area' labels knees :=
  List.filterMap_congr fun c hc => by rw [h c hc]

end Knee
