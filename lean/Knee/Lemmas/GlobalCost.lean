import Knee.Model.GlobalCost
import Knee.Lemmas.Metrics
import Knee.Lemmas.InsertSort
import Knee.Lemmas.Pairs
import Knee.Lemmas.GetD
/-! What the proofs about `Model/GlobalCost.lean` share; `costOfSum` and `termQ` are defined here. -/
namespace Knee

theorem cacheGet_some_of_ok {segErr : Nat → Nat → Rat} {c : Cache} (h : CacheOK segErr c)
    {k : Nat × Nat} {v : Rat} (hv : cacheGet c k = some v) : v = segErrG segErr k.1 k.2 := by
  obtain ⟨e, hf, rfl⟩ := Option.map_eq_some_iff.1 hv
  have hk : e.1 = k := by simpa using List.find?_some hf
  exact hk ▸ h e (List.mem_of_find?_eq_some hf)

theorem pairsOf_eq_zip : ∀ l : List Nat, pairsOf l = l.zip l.tail
  | [] => rfl
  | [_] => rfl
  | a :: b :: t => congrArg ((a, b) :: ·) (pairsOf_eq_zip (b :: t))

theorem pairsOf_range'_succ (m a : Nat) (p : Nat × Nat) (h : p ∈ pairsOf (List.range' a m)) :
    p.2 = p.1 + 1 := by
  rw [pairsOf_eq_zip] at h
  obtain ⟨i, hi, rfl⟩ := List.mem_iff_getElem.1 h
  simp only [List.getElem_zip, List.getElem_tail, List.getElem_range']
  omega

theorem pairsOf_mem {L : List Nat} {p : Nat × Nat} (h : p ∈ pairsOf L) : p.1 ∈ L ∧ p.2 ∈ L :=
  mem_of_mem_zip_tail (pairsOf_eq_zip L ▸ h)

theorem pairsOf_lt {L : List Nat} (hp : L.Pairwise (· < ·)) {p : Nat × Nat} (h : p ∈ pairsOf L) : p.1 < p.2 :=
  zip_tail_rel hp p (pairsOf_eq_zip L ▸ h)

theorem pairsOf_bounds {red : List Nat} {n : Nat} (hp : red.Pairwise (· < ·))
    (hl : red.getLast? = some (n - 1)) {p : Nat × Nat} (h : p ∈ pairsOf red) :
    p.1 < p.2 ∧ p.2 < n := by
  have h1 := pairsOf_lt hp h
  have h2 := le_getLast_of_pairwise hp hl p.2 (pairsOf_mem h).2
  omega

/-- `evaluation.compute_cost` on the summed segment errors `s`, `total` being its divisor: the common
last step of `gcostQ` and `evalShared`.  Those two write `match kind with | .r2 => … | _ => …`, this an
`if kind = .r2`; hence the `cases kind` in the two equations below. -/
def costOfSum (kind : MKind) (tss total s : Rat) : Rat :=
  let c := if kind = .r2 then (if tss = 0 then 1 - s else 1 - s / tss) else s / total
  if c < 0 then 0 else c

theorem gcostQ_eq_costOfSum (kind : MKind) (n : Nat) (tss : Rat) (segErr : Nat → Nat → Rat) (red : List Nat) :
    gcostQ kind n tss segErr red
      = costOfSum kind tss ((n + (red.length - 1) - 1 : Nat) : Rat) (sumErr segErr red) := by
  cases kind <;> rfl

theorem evalShared_eq_costOfSum (kind : MKind) (n : Nat) (tss : Rat) (segErr : Nat → Nat → Rat) (c : Cache)
    (red : List Nat) :
    evalShared kind n tss segErr c red
      = (costOfSum kind tss ((n + (red.length - 1) - 1 : Nat) : Rat)
          (evalSegs segErr (pairsOf red) c).1.sum, (evalSegs segErr (pairsOf red) c).2) := by
  cases kind <;> rfl

theorem costOfSum_nonneg (kind : MKind) (tss total s : Rat) : 0 ≤ costOfSum kind tss total s := by
  unfold costOfSum
  extract_lets c
  split
  · exact le_refl 0
  · exact not_lt.1 ‹_›

theorem costOfSum_zero (kind : MKind) (tss total : Rat) :
    costOfSum kind tss total 0 = if kind = .r2 then 1 else 0 := by
  unfold costOfSum
  simp only [zero_div, sub_zero, ite_self]
  split
  · exact if_neg (by norm_num)
  · exact ite_self 0

theorem costOfSum_r2 (tss total s : Rat) :
    costOfSum .r2 tss total s
      = (let c := if tss = 0 then 1 - s else 1 - s / tss; if c < 0 then 0 else c) := rfl

theorem costOfSum_of_ne {kind : MKind} (hk : kind ≠ .r2) (tss : Rat) {total s : Rat}
    (hs : 0 ≤ s) (ht : 0 ≤ total) : costOfSum kind tss total s = s / total := by
  unfold costOfSum
  rw [if_neg hk]
  exact if_neg (not_lt.2 (div_nonneg hs ht))

/-- per-point term of each metric: `partialQ` is the sum of these (`partialQ_eq_term`) and `mseQ`, `rmspeSq`,
`rpdQ`, `smapeQ` are their `meanQ`.  The `rmsle` term is `0`, as in `partialQ`:
the logarithm is a parameter of `rmsleSq` that this layer does not have. -/
def termQ : MKind → Rat → Rat → Rat
  | .r2, a, b => (a - b) * (a - b)
  | .rmspe, a, b => ((a - b) / (a + epsM)) * ((a - b) / (a + epsM))
  | .rpd, a, b => rabs ((a - b) / ((if a ≤ b then b else a) + epsM))
  | .smape, a, b => 2 * rabs (b - a) / (rabs a + rabs b + epsM)
  | .rmsle, _, _ => 0

theorem partialQ_eq_term (kind : MKind) (y yh : List Rat) :
    partialQ kind y yh = (List.zipWith (termQ kind) y yh).sum := by
  cases kind
  case rmsle => exact (zipWith_sum_eq_zero (fun _ _ => rfl) y yh).symm
  all_goals rfl

theorem partialQ_r2 : partialQ .r2 = rssQ := rfl

theorem mseQ_eq_term (y yh : List Rat) : mseQ y yh = meanQ (List.zipWith (termQ .r2) y yh) := rfl
theorem rmspeSq_eq_term (y yh : List Rat) : rmspeSq y yh = meanQ (List.zipWith (termQ .rmspe) y yh) := rfl
theorem rpdQ_eq_term (y yh : List Rat) : rpdQ y yh = meanQ (List.zipWith (termQ .rpd) y yh) := rfl
theorem smapeQ_eq_term (y yh : List Rat) : smapeQ y yh = meanQ (List.zipWith (termQ .smape) y yh) := rfl

theorem termQ_nonneg (kind : MKind) (a b : Rat) : 0 ≤ termQ kind a b := by
  cases kind
  case rmsle => exact le_refl _
  case rpd => exact rabs_nonneg _
  case smape => exact smape_term_nonneg a b
  case rmspe => exact rmspe_term_nonneg a b
  case r2 => exact mul_self_nonneg _

theorem termQ_self (kind : MKind) (a : Rat) : termQ kind a a = 0 := by
  cases kind <;> simp [termQ, rabs_zero]

theorem insertRat_eq : insertRat = insertBy (· ≤ ·) :=
  eq_insertBy (fun _ => rfl) fun _ _ _ => rfl

theorem sortRat_eq (l : List Rat) : sortRat l = sortBy (· ≤ ·) l :=
  congrArg (fun f => l.foldr f []) insertRat_eq

theorem medianQ_nil : medianQ [] = 0 := rfl

end Knee
