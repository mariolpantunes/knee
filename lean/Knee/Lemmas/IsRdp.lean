import Knee.Lemmas.Rdp
/-! The specification `IsRDP` of a recursive Ramer-Douglas-Peucker partition (C04); the threshold loop
returns what the recursion `rdpRec` returns (`rdpLoop_eq_rdpRec`), and that is such a partition (`rdpRec_isRDP`);
partitions tile their range (`IsRDP_tiles`).  `rdpLoop_isRDP` and `IsRDP_tiles_explicit` restate these index by index,
without `rdpRec` / `IsChain`. -/
namespace Knee

/-- Nondeterministic specification of a recursive RDP partition of the half-open range `[l, r)`
(`l + 2 ≤ r`), under the cost oracle `cst`, distance oracle `dst` and threshold `t`:
`IsRDP … l r segs` says `segs` (accepted sub-ranges, left to right) is obtained by
* leaf: the range's cost is on the accepting side of `t` → `[(l, r)]`;
* node: the cost is on the rejecting side, a split `s` strictly inside with no interior point
  farther from the chord than `s` (`∀ interior j, d[j] ≤ d[s]`), and the concatenation of a
  partition of `[l, l+s+1)` and one of `[l+s, r)`. -/
inductive IsRDP (isR2 : Bool) (t : Rat) (cst : Nat → Nat → Rat) (dst : Nat → Nat → List Rat) :
    Nat → Nat → List (Nat × Nat) → Prop
  | leaf (l r : Nat) : curved isR2 t (segCost isR2 cst l r) = false → IsRDP isR2 t cst dst l r [(l, r)]
  | node (l r s : Nat) (L R : List (Nat × Nat)) :
      curved isR2 t (segCost isR2 cst l r) = true →
      1 ≤ s → s + 2 ≤ r - l →
      (∀ j, 1 ≤ j → j + 1 < r - l → (dst l r)[j]?.getD 0 ≤ (dst l r)[s]?.getD 0) →
      IsRDP isR2 t cst dst l (l + s + 1) L → IsRDP isR2 t cst dst (l + s) r R →
      IsRDP isR2 t cst dst l r (L ++ R)

section rdpRec
variable {isR2 : Bool} {t : Rat} {cst : Nat → Nat → Rat} {dst : Nat → Nat → List Rat}

/-- The recursion that the work stack of `rdpLoop` unfolds: `rdpLoop` returns, reversed and after what it had
accepted before, `rdpRec` of every range of its stack in stack order (`rdpLoop_eq_rdpRec`).  The guard repeats what
`splitOf_of_curved` proves of every rejected range, so that the recursion is well founded without any hypothesis
on the oracles. -/
def rdpRec (isR2 : Bool) (t : Rat) (cst : Nat → Nat → Rat) (dst : Nat → Nat → List Rat) (l r : Nat) :
    List (Nat × Nat) :=
  if curved isR2 t (segCost isR2 cst l r) = true ∧ 1 ≤ splitOf (dst l r) ∧ splitOf (dst l r) + 2 ≤ r - l then
    rdpRec isR2 t cst dst l (l + splitOf (dst l r) + 1) ++ rdpRec isR2 t cst dst (l + splitOf (dst l r)) r
  else [(l, r)]
termination_by r - l
-- `l + s + 1 - l < r - l` and `r - (l + s) < r - l` from the guard `1 ≤ s`, `s + 2 ≤ r - l`; by hand, `omega` is dear here
decreasing_by
  · rename_i h
    rw [Nat.add_assoc, Nat.add_sub_cancel_left]
    exact Nat.lt_of_lt_of_le (Nat.lt_add_one _) h.2.2
  · rename_i h
    exact Nat.sub_lt_sub_left (Nat.lt_of_sub_pos (Nat.lt_of_lt_of_le (Nat.succ_pos _) h.2.2))
      (Nat.lt_add_of_pos_right h.2.1)

theorem rdpRec_isRDP (ht : if isR2 then t ≤ 1 else 0 < t) (hd : ∀ l r, (dst l r).length = r - l) (l r : Nat) :
    IsRDP isR2 t cst dst l r (rdpRec isR2 t cst dst l r) := by
  fun_induction rdpRec isR2 t cst dst l r with
  | case1 l r h ihL ihR =>
    have hmax := fun j => splitOf_max (d := dst l r) j
    rw [hd] at hmax
    exact IsRDP.node l r _ _ _ h.1 h.2.1 h.2.2 hmax ihL ihR
  | case2 l r h =>
    exact IsRDP.leaf l r (Bool.eq_false_iff.mpr fun hc => h ⟨hc, splitOf_of_curved ht hd hc⟩)

theorem rdpLoop_eq_rdpRec (ht : if isR2 then t ≤ 1 else 0 < t) (hd : ∀ l r, (dst l r).length = r - l)
    {fuel : Nat} {st out res : List (Nat × Nat)} : rdpLoop isR2 t cst dst fuel st out = some res →
      res.reverse = out.reverse ++ (st.map fun p => rdpRec isR2 t cst dst p.1 p.2).flatten := by
  fun_induction rdpLoop isR2 t cst dst fuel st out with
  | case1 => exact nofun
  | case2 f out =>
    intro h
    obtain rfl := Option.some.inj h
    simp
  | case3 f l r st out hc i ih =>
    intro h
    -- the head of the stack is unfolded before `ih h` brings in the `rdpRec` of its two halves
    rw [List.map_cons, List.flatten_cons, rdpRec, if_pos ⟨hc, splitOf_of_curved ht hd hc⟩, ih h]
    simp [i]
  | case4 f l r st out hc ih =>
    intro h
    rw [List.map_cons, List.flatten_cons, rdpRec, if_neg fun h => hc h.1, ih h]
    simp

end rdpRec

theorem rdpLoop_isRDP (isR2 : Bool) (t : Rat) (cst : Nat → Nat → Rat) (dst : Nat → Nat → List Rat)
    (ht : if isR2 then t ≤ 1 else 0 < t) (hd : ∀ l r, (dst l r).length = r - l) :
    ∀ (fuel : Nat) (st out res : List (Nat × Nat)),
      rdpLoop isR2 t cst dst fuel st out = some res →
      ∃ parts : List (List (Nat × Nat)), parts.length = st.length ∧
        res.reverse = out.reverse ++ parts.flatten ∧
        ∀ i (hi : i < st.length), ∃ (hp : i < parts.length),
          IsRDP isR2 t cst dst (st[i]).1 (st[i]).2 (parts[i]) := by
  intro fuel st out res h
  refine ⟨_, List.length_map _, rdpLoop_eq_rdpRec ht hd h, fun i hi => ⟨by rwa [List.length_map], ?_⟩⟩
  rw [List.getElem_map]
  exact rdpRec_isRDP ht hd _ _

theorem IsRDP_ne_nil {isR2 t cst dst l r segs} (h : IsRDP isR2 t cst dst l r segs) : segs ≠ [] := by
  induction h with
  | leaf l r _ => exact List.cons_ne_nil _ _
  | node l r s L R _ _ _ _ _ _ ihL _ => exact fun e => ihL (List.append_eq_nil_iff.mp e).1

theorem IsRDP_tiles {isR2 t cst dst l r segs} (h : IsRDP isR2 t cst dst l r segs)
    (hlr : l + 2 ≤ r) : IsChain r l segs := by
  induction h with
  | leaf l r _ => exact ⟨rfl, hlr, show r - 1 + 1 = r by omega⟩
  | node l r s L R _ h1 h2 _ _ _ ihL ihR =>
    -- `h2 : s + 2 ≤ r - l` read as `s + 1 < r - l`
    exact (ihL (by omega)).append (ihR (Nat.add_lt_of_lt_sub' (a := l) h2))

theorem IsRDP_tiles_explicit {isR2 t cst dst l r segs} (h : IsRDP isR2 t cst dst l r segs)
    (hlr : l + 2 ≤ r) :
    segs ≠ [] ∧
    (∀ p ∈ segs, p.1 + 2 ≤ p.2) ∧
    (∀ i (hi : i + 1 < segs.length), (segs[i]).2 - 1 = (segs[i + 1]).1) ∧
    (∀ p, segs.head? = some p → p.1 = l) ∧
    (∀ p, segs.getLast? = some p → p.2 = r) :=
  ⟨IsRDP_ne_nil h, IsChain_explicit segs l (IsRDP_tiles h hlr)⟩

end Knee
