/-!
Relations on the adjacent pairs (`Adj2`) and triples (`Adj3`) of a list of indices, defined by recursion on the list, and
how they pass to `tail`, `reverse`, `map`, a longer list; `iff_getD` reads them by position.  Core only.
-/
namespace Knee

/-- `R top below` for every adjacent pair of the stack.  (`List.IsChain R` of Batteries; `Adj3` has no library
counterpart and needs the same recursion, so both are kept here, without imports.) -/
def Adj2 (R : Nat → Nat → Prop) : List Nat → Prop
  | b :: a :: rest => R b a ∧ Adj2 R (a :: rest)
  | _ => True

/-- `R top mid below` for every adjacent triple of the stack -/
def Adj3 (R : Nat → Nat → Nat → Prop) : List Nat → Prop
  | c :: b :: a :: rest => R c b a ∧ Adj3 R (b :: a :: rest)
  | _ => True

theorem Adj2.tail {R : Nat → Nat → Prop} : ∀ {x : Nat} {l : List Nat}, Adj2 R (x :: l) → Adj2 R l
  | _, [], _ => trivial
  | _, _ :: _, h => h.2

theorem Adj3.tail {R : Nat → Nat → Nat → Prop} : ∀ {x : Nat} {l : List Nat}, Adj3 R (x :: l) → Adj3 R l
  | _, [], _ => trivial
  | _, [_], _ => trivial
  | _, _ :: _ :: _, h => h.2

theorem Adj2.iff_getD {R : Nat → Nat → Prop} : ∀ l : List Nat,
    Adj2 R l ↔ ∀ i, i + 1 < l.length → R (l[i]?.getD 0) (l[i + 1]?.getD 0)
  | [] => ⟨fun _ _ hi => absurd hi (Nat.not_lt_zero _), fun _ => trivial⟩
  | [_] => ⟨fun _ _ hi => absurd (Nat.lt_of_succ_lt_succ hi) (Nat.not_lt_zero _), fun _ => trivial⟩
  | _ :: a :: rest =>
    ⟨fun h i hi => match i with
      | 0 => h.1
      | i + 1 => (Adj2.iff_getD (a :: rest)).1 h.2 i (Nat.lt_of_succ_lt_succ hi),
     fun h => ⟨h 0 (Nat.succ_lt_succ (Nat.succ_pos _)),
       (Adj2.iff_getD (a :: rest)).2 fun i hi => h (i + 1) (Nat.succ_lt_succ hi)⟩⟩

theorem Adj3.iff_getD {R : Nat → Nat → Nat → Prop} : ∀ l : List Nat,
    Adj3 R l ↔ ∀ i, i + 2 < l.length → R (l[i]?.getD 0) (l[i + 1]?.getD 0) (l[i + 2]?.getD 0)
  | [] => ⟨fun _ _ hi => absurd hi (Nat.not_lt_zero _), fun _ => trivial⟩
  | [_] => ⟨fun _ _ hi => absurd (Nat.lt_of_succ_lt_succ hi) (Nat.not_lt_zero _), fun _ => trivial⟩
  | [_, _] => ⟨fun _ _ hi => absurd (Nat.lt_of_succ_lt_succ (Nat.lt_of_succ_lt_succ hi)) (Nat.not_lt_zero _),
      fun _ => trivial⟩
  | _ :: b :: a :: rest =>
    ⟨fun h i hi => match i with
      | 0 => h.1
      | i + 1 => (Adj3.iff_getD (b :: a :: rest)).1 h.2 i (Nat.lt_of_succ_lt_succ hi),
     fun h => ⟨h 0 (Nat.succ_lt_succ (Nat.succ_lt_succ (Nat.succ_pos _))),
       (Adj3.iff_getD (b :: a :: rest)).2 fun i hi => h (i + 1) (Nat.succ_lt_succ hi)⟩⟩

theorem Adj2.concat {R : Nat → Nat → Prop} {a b : Nat} (hab : R a b) : ∀ l : List Nat,
    Adj2 R (l ++ [a]) → Adj2 R (l ++ [a, b])
  | [], _ => ⟨hab, trivial⟩
  | [_], h => ⟨h.1, hab, trivial⟩
  | _ :: y :: l, h => ⟨h.1, Adj2.concat hab (y :: l) h.2⟩

theorem Adj3.concat {R : Nat → Nat → Nat → Prop} {a b c : Nat} (habc : R a b c) : ∀ l : List Nat,
    Adj3 R (l ++ [a, b]) → Adj3 R (l ++ [a, b, c])
  | [], _ => ⟨habc, trivial⟩
  | [_], h => ⟨h.1, habc, trivial⟩
  | [_, _], h => ⟨h.1, h.2.1, habc, trivial⟩
  | _ :: y :: z :: l, h => ⟨h.1, Adj3.concat habc (y :: z :: l) h.2⟩

theorem Adj2.reverse {R : Nat → Nat → Prop} : ∀ l : List Nat, Adj2 R l → Adj2 (fun a b => R b a) l.reverse
  | [], _ => trivial
  | [_], _ => trivial
  | b :: a :: rest, h => by
    have ih := Adj2.reverse (a :: rest) h.2
    rw [List.reverse_cons] at ih
    rw [List.reverse_cons, List.reverse_cons, List.append_assoc]
    exact Adj2.concat (R := fun a b => R b a) h.1 _ ih

theorem Adj3.reverse {R : Nat → Nat → Nat → Prop} : ∀ l : List Nat, Adj3 R l →
    Adj3 (fun a b c => R c b a) l.reverse
  | [], _ => trivial
  | [_], _ => trivial
  | [_, _], _ => trivial
  | c :: b :: a :: rest, h => by
    have ih := Adj3.reverse (b :: a :: rest) h.2
    rw [List.reverse_cons, List.reverse_cons, List.append_assoc] at ih
    rw [List.reverse_cons, List.reverse_cons, List.reverse_cons, List.append_assoc, List.append_assoc]
    exact Adj3.concat (R := fun a b c => R c b a) h.1 _ ih

theorem Adj2.mono_mem {R S : Nat → Nat → Prop} : ∀ l : List Nat,
    (∀ b ∈ l, ∀ a ∈ l, R b a → S b a) → Adj2 R l → Adj2 S l
  | [], _, _ => trivial
  | [_], _, _ => trivial
  | b :: a :: rest, hRS, h => ⟨hRS b (by simp) a (by simp) h.1, Adj2.mono_mem (a :: rest)
      (fun x hx y hy => hRS x (List.mem_cons_of_mem _ hx) y (List.mem_cons_of_mem _ hy)) h.2⟩

theorem Adj2.mono {R S : Nat → Nat → Prop} (hRS : ∀ b a, R b a → S b a) :
    ∀ l : List Nat, Adj2 R l → Adj2 S l :=
  fun l => Adj2.mono_mem l fun b _ a _ => hRS b a

theorem Adj2.map {R : Nat → Nat → Prop} (f : Nat → Nat) : ∀ l : List Nat,
    Adj2 (fun a b => R (f a) (f b)) l → Adj2 R (l.map f)
  | [], _ => trivial
  | [_], _ => trivial
  | _ :: a :: rest, h => ⟨h.1, Adj2.map f (a :: rest) h.2⟩

theorem Adj2.and {R S T : Nat → Nat → Prop} (hRST : ∀ b a, R b a → S b a → T b a) :
    ∀ l : List Nat, Adj2 R l → Adj2 S l → Adj2 T l
  | [], _, _ => trivial
  | [_], _, _ => trivial
  | b :: a :: rest, h, h' => ⟨hRST b a h.1 h'.1, Adj2.and hRST (a :: rest) h.2 h'.2⟩

end Knee
