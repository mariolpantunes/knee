import Knee.Model.Rdp
import Knee.Lemmas.Basic
/-! The split index of the simplifiers, and the threshold-RDP loop (C01, C04): termination by a potential, and
what a tiling chain of segments says about the returned pair. -/
namespace Knee

theorem splitOf_interior {d : List Rat} (h : 3 ≤ d.length) : 1 ≤ splitOf d ∧ splitOf d + 2 ≤ d.length :=
  interior_argmax_range h

theorem splitOf_max {d : List Rat} (j : Nat) (h1 : 1 ≤ j) (h2 : j + 1 < d.length) :
    d[j]?.getD 0 ≤ d[splitOf d]?.getD 0 :=
  interior_argmax_ge j h1 h2

theorem pickSplit_interior {d : List Rat} (h : 3 ≤ d.length) :
    1 ≤ pickSplit d ∧ pickSplit d + 2 ≤ d.length := by
  unfold pickSplit
  split
  · omega
  · exact splitOf_interior h

theorem pickSplit_spec (d : List Rat) :
    ((∀ v ∈ d, v < eps) ∧ pickSplit d = d.length / 2) ∨
    (∀ j, 1 ≤ j → j + 1 < d.length → d[j]?.getD 0 ≤ d[pickSplit d]?.getD 0) := by
  unfold pickSplit
  split
  · rename_i hall
    exact .inl ⟨fun v hv => of_decide_eq_true (List.all_eq_true.mp hall v hv), rfl⟩
  · exact .inr splitOf_max

/-- Only ranges of at least 3 points are split: on at most two points the cost is the code's constant,
which lies on the accepting side of every threshold in the domain. -/
theorem curved_len {isR2 : Bool} {t : Rat} {cst : Nat → Nat → Rat} {l r : Nat}
    (ht : if isR2 then t ≤ 1 else 0 < t)
    (hc : curved isR2 t (segCost isR2 cst l r) = true) : 3 ≤ r - l := by
  apply Nat.le_of_not_lt
  intro hlt
  rw [segCost, if_pos (by omega), curved] at hc
  cases isR2 with
  | true => exact Rat.not_lt.mpr ht (of_decide_eq_true hc)
  | false => exact Rat.not_le.mpr ht (of_decide_eq_true hc)

theorem splitOf_of_curved {isR2 : Bool} {t : Rat} {cst : Nat → Nat → Rat} {dst : Nat → Nat → List Rat}
    (ht : if isR2 then t ≤ 1 else 0 < t) (hd : ∀ l r, (dst l r).length = r - l) {l r : Nat}
    (hc : curved isR2 t (segCost isR2 cst l r) = true) :
    1 ≤ splitOf (dst l r) ∧ splitOf (dst l r) + 2 ≤ r - l := by
  have := splitOf_interior (d := dst l r) (by rw [hd]; exact curved_len ht hc)
  rwa [hd] at this

/-- potential: a range of `m` points costs at most `2m - 3` iterations (the visited ranges form a binary
tree whose at most `m - 1` leaves have ≥ 2 points each, hence at most `2(m - 1) - 1` nodes) -/
def pot : List (Nat × Nat) → Nat
  | [] => 0
  | (l, r) :: st => (2 * (r - l) - 3) + pot st

theorem pot_cons (l r : Nat) (st : List (Nat × Nat)) : pot ((l, r) :: st) = (2 * (r - l) - 3) + pot st := rfl

theorem pot_split {l r i : Nat} (st : List (Nat × Nat)) (h1 : 1 ≤ i) (h2 : i + 2 ≤ r - l) :
    pot ((l, l + i + 1) :: (l + i, r) :: st) + 1 ≤ pot ((l, r) :: st) := by
  rw [pot_cons, pot_cons, pot_cons, Nat.add_assoc l, Nat.add_sub_cancel_left, Nat.sub_add_eq]
  generalize r - l = m at h2
  generalize pot st = p
  omega

theorem rdpSteps_le {isR2 : Bool} {t : Rat} (cst : Nat → Nat → Rat) {dst : Nat → Nat → List Rat}
    (ht : if isR2 then t ≤ 1 else 0 < t) (hd : ∀ l r, (dst l r).length = r - l)
    (fuel : Nat) (st : List (Nat × Nat)) : (∀ p ∈ st, p.1 + 2 ≤ p.2) →
      rdpSteps isR2 t cst dst fuel st ≤ pot st := by
  fun_induction rdpSteps isR2 t cst dst fuel st with
  | case1 => exact fun _ => Nat.zero_le _
  | case2 => exact fun _ => Nat.le_refl _
  | case3 f l r st hc i ih =>
    intro hst
    rw [List.forall_mem_cons] at hst
    have hsp : 1 ≤ i ∧ i + 2 ≤ r - l := splitOf_of_curved ht hd hc
    have := ih (by simp only [List.forall_mem_cons]; exact ⟨by omega, by omega, hst.2⟩)
    have := pot_split st hsp.1 hsp.2
    omega
  | case4 f l r st hc ih =>
    intro hst
    rw [List.forall_mem_cons] at hst
    have := ih hst.2
    have := hst.1
    rw [pot_cons]
    omega

/-- `rdpSteps` stops at fuel 0 like the loop, so it counts `min fuel (steps the loop needs)`: strictly below the
fuel means the stack ran empty first. -/
theorem rdpLoop_of_steps_lt {isR2 : Bool} {t : Rat} {cst : Nat → Nat → Rat} {dst : Nat → Nat → List Rat}
    (fuel : Nat) (st out : List (Nat × Nat)) : rdpSteps isR2 t cst dst fuel st < fuel →
      ∃ res, rdpLoop isR2 t cst dst fuel st out = some res := by
  fun_induction rdpLoop isR2 t cst dst fuel st out with
  | case1 => exact fun h => absurd h (Nat.not_lt_zero _)
  | case2 f out => exact fun _ => ⟨out, rfl⟩
  | case3 f l r st out hc i ih =>
    intro h
    rw [rdpSteps, if_pos hc, Nat.one_add] at h
    exact ih (Nat.lt_of_succ_lt_succ h)
  | case4 f l r st out hc ih =>
    intro h
    rw [rdpSteps, if_neg hc, Nat.one_add] at h
    exact ih (Nat.lt_of_succ_lt_succ h)

/-- `IsChain n a segs`: the half-open ranges in `segs` tile `[a, n)` sharing end points:
each has ≥ 2 points, starts where the previous one ended (its last index), the last ends at `n`. -/
def IsChain (n : Nat) : Nat → List (Nat × Nat) → Prop
  | a, [] => a + 1 = n
  | a, (l, r) :: rest => l = a ∧ l + 2 ≤ r ∧ IsChain n (r - 1) rest

theorem IsChain.append {n b : Nat} {ys : List (Nat × Nat)} :
    ∀ {xs : List (Nat × Nat)} {a : Nat}, IsChain (b + 1) a xs → IsChain n b ys → IsChain n a (xs ++ ys)
  | [], a, (h : a + 1 = b + 1), hy => by rwa [Nat.add_right_cancel h]
  | (_, _) :: _, _, ⟨h1, h2, h3⟩, hy => ⟨h1, h2, h3.append hy⟩

theorem IsChain_explicit {n : Nat} : ∀ (segs : List (Nat × Nat)) (a : Nat), IsChain n a segs →
    (∀ p ∈ segs, p.1 + 2 ≤ p.2) ∧
    (∀ i (hi : i + 1 < segs.length), (segs[i]).2 - 1 = (segs[i + 1]).1) ∧
    (∀ p, segs.head? = some p → p.1 = a) ∧
    (∀ p, segs.getLast? = some p → p.2 = n)
  | [], _, _ => ⟨nofun, nofun, nofun, nofun⟩
  | [(l, r)], a, ⟨hla, hlr, (hn : r - 1 + 1 = n)⟩ =>
    ⟨fun p hp => List.mem_singleton.mp hp ▸ hlr, fun i hi => absurd hi (by simp),
      fun p hp => Option.some.inj hp ▸ hla, fun p hp => Option.some.inj hp ▸ (by omega : r = n)⟩
  | (l, r) :: y :: ys, a, ⟨hla, hlr, hrest⟩ => by
    obtain ⟨i1, i2, i3, i4⟩ := IsChain_explicit (y :: ys) (r - 1) hrest
    refine ⟨List.forall_mem_cons.mpr ⟨hlr, i1⟩, fun i hi => ?_, fun p hp => Option.some.inj hp ▸ hla,
      fun p hp => i4 p (by rwa [List.getLast?_cons_cons] at hp)⟩
    cases i with
    | zero => exact (i3 y rfl).symm
    | succ i => exact i2 i (Nat.lt_of_succ_lt_succ hi)

/-- The head is exported as a `cons` because that is what the induction uses: every later entry is
compared with it. -/
theorem chain_result (n : Nat) (segs : List (Nat × Nat)) (a : Nat) : IsChain n a segs →
    (∃ T, segs.map (·.1) ++ [n - 1] = a :: T) ∧
    (segs.map (·.1) ++ [n - 1]).Pairwise (· < ·) ∧
    computeRemoved (segs.map (·.1) ++ [n - 1]) = segs.map (fun s => (s.1, s.2 - s.1 - 2)) := by
  fun_induction IsChain n a segs with
  | case1 a =>
    intro (h : a + 1 = n)
    exact ⟨⟨[], by rw [← h]; rfl⟩, List.pairwise_singleton _ _, rfl⟩
  | case2 a l r rest ih =>
    rintro ⟨rfl, hlr, hrest⟩
    obtain ⟨⟨T, hT⟩, hpw, hcr⟩ := ih hrest
    simp only [List.map_cons, List.cons_append, hT] at hpw hcr ⊢
    have hl : l < r - 1 := Nat.lt_sub_of_add_lt hlr
    refine ⟨⟨_, rfl⟩, .cons (List.forall_mem_cons.2
      ⟨hl, fun x hx => Nat.lt_trans hl (List.rel_of_pairwise_cons hpw hx)⟩) hpw, ?_⟩
    rw [computeRemoved, hcr, Nat.sub_right_comm r 1 l]
    rfl

end Knee
