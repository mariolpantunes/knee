import Knee.Model.Geometry
import Knee.Lemmas.AbsMaxMin
import Mathlib.Tactic.Ring
import Mathlib.Tactic.Linarith
import Mathlib.Tactic.LinearCombination
/-!
For the geometric primitives of `Model/Geometry.lean` and the rectangles of `Model/Filters.lean`.
The order arguments go through two one-dimensional notions: the distance from a number to an interval
(`intervalDist`, the clamping in `shortestSq`) and the overlap of two intervals (`ovl`, of which
`rectOverlap` is built); distances to line and segment are compared after multiplying by `|b - a|²`;
for `mengerSq` the circumcentre is found by Cramer's rule in coordinates relative to the first point.
-/
namespace Knee

theorem normSq_nonneg (u : P2) : 0 ≤ normSq u := add_nonneg (mul_self_nonneg _) (mul_self_nonneg _)

theorem normSq_sub_eq_zero_iff {q p : P2} : normSq (sub q p) = 0 ↔ q = p := by
  rw [Prod.ext_iff]
  exact mul_self_add_mul_self_eq_zero.trans (and_congr sub_eq_zero sub_eq_zero)

theorem normSq_sub_self (p : P2) : normSq (sub p p) = 0 := normSq_sub_eq_zero_iff.2 rfl

theorem normSq_sub_pos {a b : P2} (hab : a ≠ b) : 0 < normSq (sub b a) :=
  lt_of_le_of_ne (normSq_nonneg _) fun h => hab (normSq_sub_eq_zero_iff.1 h.symm).symm

theorem normSq_sub_comm (a b : P2) : normSq (sub a b) = normSq (sub b a) := by
  obtain ⟨ax, ay⟩ := a
  obtain ⟨bx, by'⟩ := b
  simp only [normSq, dot, sub]
  ring

/-- the distance from `d` to `[0, N]`: the clamping `max(S, T, 0)` of `shortest_distance_points`,
with `d` the projection of `p - a` on `b - a` (`S = -d`, `T = d - N`) -/
def intervalDist (d N : Rat) : Rat := max (max (-d) (d - N)) 0

theorem intervalDist_nonneg (d N : Rat) : 0 ≤ intervalDist d N := le_max_right _ _

theorem intervalDist_le {d N t : Rat} (h0 : 0 ≤ t) (h1 : t ≤ N) : intervalDist d N ≤ |d - t| :=
  max_le (max_le ((neg_le_neg (sub_le_self d h0)).trans (neg_le_abs _))
    ((sub_le_sub_left h1 d).trans (le_abs_self _))) (abs_nonneg _)

theorem intervalDist_attained {d N : Rat} (hN : 0 ≤ N) :
    |d - max 0 (min N d)| = intervalDist d N := by
  unfold intervalDist
  rcases le_total d 0 with h | h
  · rw [max_eq_left ((min_le_right _ _).trans h), sub_zero, abs_of_nonpos h,
      max_eq_left ((sub_le_self d hN).trans (h.trans (neg_nonneg.2 h))), max_eq_left (neg_nonneg.2 h)]
  · rcases le_total d N with h' | h'
    · rw [min_eq_right h', max_eq_right h, sub_self, abs_zero,
        max_eq_right (max_le (neg_nonpos.2 h) (sub_nonpos.2 h'))]
    · rw [min_eq_left h', max_eq_right hN, abs_of_nonneg (sub_nonneg.2 h'),
        max_eq_right ((neg_nonpos.2 h).trans (sub_nonneg.2 h')), max_eq_left (sub_nonneg.2 h')]

/-! ### distances to line and segment in the coordinates `d = (p-a)·v`, `c = (p-a)×v`, `N = |v|²`, `v = b - a` -/

/-- Lagrange's identity `|u|²|v|² = (u×v)² + (u·v)²`, for `u - lam v` in place of `u` -/
theorem lagrange_at (u v : P2) (lam : Rat) :
    normSq (u.1 - lam * v.1, u.2 - lam * v.2) * normSq v
      = cross u v * cross u v + (dot u v - lam * normSq v) * (dot u v - lam * normSq v) := by
  simp only [normSq, dot, cross]
  ring

theorem distSqAt_mul_normSq (p a b : P2) (lam : Rat) :
    distSqAt p a b lam * normSq (sub b a)
      = cross (sub p a) (sub b a) * cross (sub p a) (sub b a)
        + (dot (sub p a) (sub b a) - lam * normSq (sub b a))
          * (dot (sub p a) (sub b a) - lam * normSq (sub b a)) := by
  rw [← lagrange_at]
  simp only [distSqAt, sub, sub_add_eq_sub_sub]

theorem perpSq_mul_normSq (p a b : P2) (hab : a ≠ b) :
    perpSq p a b * normSq (sub b a)
      = cross (sub p a) (sub b a) * cross (sub p a) (sub b a) := by
  have hc : cross (sub b a) (sub p a) = - cross (sub p a) (sub b a) := by
    simp only [cross]; ring
  simp only [perpSq]
  rw [div_mul_cancel₀ _ (normSq_sub_pos hab).ne', hc, neg_mul_neg]

theorem shortestSq_mul_normSq (p a b : P2) (hab : a ≠ b) :
    shortestSq p a b * normSq (sub b a)
      = intervalDist (dot (sub p a) (sub b a)) (normSq (sub b a))
          * intervalDist (dot (sub p a) (sub b a)) (normSq (sub b a))
        + cross (sub p a) (sub b a) * cross (sub p a) (sub b a) := by
  have hS : dot (sub a p) (sub b a) = -(dot (sub p a) (sub b a)) := by
    simp only [dot, sub]; ring
  have hT : dot (sub p b) (sub b a) = dot (sub p a) (sub b a) - normSq (sub b a) := by
    simp only [dot, sub, normSq]; ring
  simp only [shortestSq, if_neg hab, rmax_eq_max, intervalDist]
  rw [div_mul_cancel₀ _ (normSq_sub_pos hab).ne', hS, hT]

theorem shortestSq_nonneg (p a b : P2) : 0 ≤ shortestSq p a b := by
  by_cases hab : a = b
  · simp only [shortestSq, if_pos hab]; exact normSq_nonneg _
  · apply le_of_mul_le_mul_right _ (normSq_sub_pos hab)
    rw [shortestSq_mul_normSq p a b hab, zero_mul]
    exact add_nonneg (mul_self_nonneg _) (mul_self_nonneg _)

/-- length of `[lo1, hi1] ∩ [lo2, hi2]` (0 when they are disjoint) -/
def ovl (lo1 hi1 lo2 hi2 : Rat) : Rat := max 0 (min hi1 hi2 - max lo1 lo2)

theorem ovl_nonneg (lo1 hi1 lo2 hi2 : Rat) : 0 ≤ ovl lo1 hi1 lo2 hi2 := le_max_left _ _

theorem ovl_le_left (lo1 hi1 lo2 hi2 : Rat) : ovl lo1 hi1 lo2 hi2 ≤ |hi1 - lo1| :=
  max_le (abs_nonneg _) ((sub_le_sub (min_le_left _ _) (le_max_left _ _)).trans (le_abs_self _))

theorem ovl_comm (lo1 hi1 lo2 hi2 : Rat) : ovl lo1 hi1 lo2 hi2 = ovl lo2 hi2 lo1 hi1 := by
  unfold ovl; rw [min_comm, max_comm lo1]

theorem ovl_self {lo hi : Rat} (h : lo ≤ hi) : ovl lo hi lo hi = hi - lo := by
  unfold ovl; rw [min_self, max_self, max_eq_right (sub_nonneg.2 h)]

theorem ovl_disjoint {lo1 hi1 lo2 hi2 : Rat} (h : hi1 ≤ lo2 ∨ hi2 ≤ lo1) :
    ovl lo1 hi1 lo2 hi2 = 0 :=
  max_eq_left <| sub_nonpos.2 <| h.elim
    (fun h => (min_le_left _ _).trans (h.trans (le_max_right _ _)))
    (fun h => (min_le_right _ _).trans (h.trans (le_max_left _ _)))

theorem rectOverlap_eq (amin amax bmin bmax : Rat × Rat) :
    rectOverlap amin amax bmin bmax =
      if 0 < ovl amin.1 amax.1 bmin.1 bmax.1 * ovl amin.2 amax.2 bmin.2 bmax.2 then
        ovl amin.1 amax.1 bmin.1 bmax.1 * ovl amin.2 amax.2 bmin.2 bmax.2 /
          (|amax.1 - amin.1| * |amax.2 - amin.2| + |bmax.1 - bmin.1| * |bmax.2 - bmin.2|
            - ovl amin.1 amax.1 bmin.1 bmax.1 * ovl amin.2 amax.2 bmin.2 bmax.2)
      else 0 := by
  unfold rectOverlap ovl
  simp only [rmax_eq_max, rmin_eq_min, rabs_eq_abs]

theorem ovl_mul_le (amin amax bmin bmax : Rat × Rat) :
    ovl amin.1 amax.1 bmin.1 bmax.1 * ovl amin.2 amax.2 bmin.2 bmax.2
      ≤ |amax.1 - amin.1| * |amax.2 - amin.2| :=
  mul_le_mul (ovl_le_left _ _ _ _) (ovl_le_left _ _ _ _) (ovl_nonneg _ _ _ _) (abs_nonneg _)

theorem cross_sub_swap12 (f g h : P2) :
    cross (sub f g) (sub h f) = -cross (sub g f) (sub h g) := by
  simp only [cross, sub]; ring

theorem cross_sub_swap23 (f g h : P2) :
    cross (sub h f) (sub g h) = -cross (sub g f) (sub h g) := by
  simp only [cross, sub]; ring

theorem distinct_of_cross_ne_zero {f g h : P2} (hc : cross (sub g f) (sub h g) ≠ 0) :
    f ≠ g ∧ g ≠ h ∧ h ≠ f := by
  refine ⟨?_, ?_, ?_⟩ <;> rintro rfl <;> apply hc <;> simp only [cross, sub] <;> ring

/-- about the model's `sub` on points, not Mathlib's `-` -/
theorem sub_rel_cancel (f g h : P2) : sub (sub h f) (sub g f) = sub h g := by
  simp only [sub, sub_sub_sub_cancel_right]

theorem cross_sub_self_right (u w : P2) : cross u (sub w u) = cross u w := by
  simp only [cross, sub]; ring

/-- The circumcentre of the triangle `0, u, w` (`K = u × w ≠ 0`): the point `o` given by Cramer's
rule, `2K·o.1 = w.2|u|² - u.2|w|²`, `2K·o.2 = u.1|w|² - w.1|u|²`, is equidistant from `0`, `u`, `w`,
and `4K² |o|² = |u|² |w - u|² |w|²`. -/
theorem circum_rel {u w : P2} (hK : cross u w ≠ 0) :
    ∃ o : P2, normSq o = normSq (sub o u) ∧ normSq o = normSq (sub o w)
      ∧ 4 * cross u w * cross u w * normSq o = normSq u * normSq (sub w u) * normSq w := by
  obtain ⟨a, b⟩ := u
  obtain ⟨c, d⟩ := w
  simp only [cross] at hK
  have hD := mul_ne_zero two_ne_zero hK
  obtain ⟨ox, h1⟩ : ∃ ox, ox * (2 * (a * d - b * c)) = d * (a * a + b * b) - b * (c * c + d * d) :=
    ⟨_, div_mul_cancel₀ _ hD⟩
  obtain ⟨oy, h2⟩ : ∃ oy, oy * (2 * (a * d - b * c)) = a * (c * c + d * d) - c * (a * a + b * b) :=
    ⟨_, div_mul_cancel₀ _ hD⟩
  have e1 : 2 * (a * ox + b * oy) = a * a + b * b := by
    apply mul_left_cancel₀ hK
    linear_combination a * h1 + b * h2
  have e2 : 2 * (c * ox + d * oy) = c * c + d * d := by
    apply mul_left_cancel₀ hK
    linear_combination c * h1 + d * h2
  refine ⟨(ox, oy), ?_, ?_, ?_⟩ <;> simp only [cross, normSq, dot, sub]
  · linear_combination e1
  · linear_combination e2
  · -- `(2K·o.1)² + (2K·o.2)²` with both squares replaced by `h1`, `h2` (differences of squares)
    linear_combination
      (ox * (2 * (a * d - b * c)) + (d * (a * a + b * b) - b * (c * c + d * d))) * h1
      + (oy * (2 * (a * d - b * c)) + (a * (c * c + d * d) - c * (a * a + b * b))) * h2

end Knee
