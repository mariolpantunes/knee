import Knee.Lemmas.Detectors
import Knee.Lemmas.ElbowLMethod
/-!
# C03 (part D) — the L-method returns the corner of an exact elbow for every Fit × Cost option and
every refinement option

Model: `Knee/Model/LMethodQ.lean` (`olsRss`, `lmErrGen`, `lmErrsGen`, `lmethodKneeGen`: the
fitting error of `lmethod.compute_error` for `fit ∈ {point_fit, best_fit}` × `cost ∈ {rss, rmse}`
over ℚ) plugged into the Layer-S scan and refinement loop of `Knee/Model/Detectors.lean`.
`sq : ℚ → ℚ` stands for `math.sqrt`; only `sq 0 = 0` and `0 < v → 0 < sq v` are used.

The two sides of a split are worked out in `Lemmas/ElbowLMethod.lean` (`IsElbow.resid_arm`,
`IsElbow.resid_across`); the three `ols_rss_*` statements put facts of that file under the property's
names.  The model is run on the sample elbow at the end of `Props/C03A.lean`, where the sample is.
-/
namespace Knee

variable {x y : Nat → Rat} {n c : Nat} {s1 s2 : Rat} {sq : Rat → Rat}

/-- the least-squares residual is a sum of squares -/
theorem ols_rss_nonneg (xs ys : List Rat) : 0 ≤ olsRss xs ys := lmResid_nonneg true xs ys

/-- points that lie on one line `y = a + s x` are fitted exactly by least squares (`hq`, `hne` are not
needed: `olsRss_eq_zero_of_line`) -/
theorem ols_rss_collinear (x y : Nat → Rat) (a s : Rat) (L : List Nat) (p q : Nat)
    (hp : p ∈ L) (hq : q ∈ L) (hne : x p ≠ x q) (hline : ∀ k ∈ L, y k = a + s * x k) :
    olsRss (L.map x) (L.map y) = 0 :=
  olsRss_eq_zero_of_line (s := s) (i0 := p) fun k hk => by rw [hline k hk, hline p hp]; ring

/-- three points `p, q, r` with increasing abscissae, `p q` on slope `s1` and `q r` on slope
`s2 ≠ s1`, cannot be fitted exactly: the least-squares residual is positive -/
theorem ols_rss_pos_of_not_collinear (x y : Nat → Rat) (s1 s2 : Rat) (L : List Nat) (p q r : Nat)
    (hp : p ∈ L) (hq : q ∈ L) (hr : r ∈ L) (h1 : x p < x q) (h2 : x q < x r) (hs : s1 ≠ s2)
    (e1 : y p = y q + s1 * (x p - x q)) (e3 : y r = y q + s2 * (x r - x q)) :
    0 < olsRss (L.map x) (L.map y) :=
  lmResid_pos true hp hq hr h1.ne h2.ne hs e1 e3

/-- on the first `len` points (`c + 3 ≤ len ≤ n`) the split at the corner has error `0`, for
`bestfit ∈ {false, true}` and `rmse ∈ {false, true}` … -/
theorem lmErrGen_elbow_corner_prefix (h : IsElbow x y n c s1 s2) (hsq0 : sq 0 = 0)
    (bestfit rmse : Bool) (len : Nat) (hc : c + 3 ≤ len) (hn : len ≤ n) :
    lmErrGen sq bestfit rmse x y len c = 0 := by
  have h1 := h.arm1
  rw [lmErrGen_eq sq bestfit rmse x y len c (by omega),
    h.resid_arm bestfit 0 (c + 1) (by omega) (by omega) (Or.inl (by omega)),
    h.resid_arm bestfit c (len - c) (by omega) (by omega) (Or.inr (Nat.le_refl c))]
  exact lmCost_zero hsq0 rmse _ _

/-- … and every other admissible split `2 ≤ i ≤ len - 3` has strictly positive error -/
theorem lmErrGen_elbow_off_prefix (h : IsElbow x y n c s1 s2) (hsq0 : sq 0 = 0)
    (hsqpos : ∀ v, 0 < v → 0 < sq v) (bestfit rmse : Bool) (len : Nat) (hc : c + 3 ≤ len)
    (hn : len ≤ n) (i : Nat) (hi2 : 2 ≤ i) (hin : i + 3 ≤ len) (hic : i ≠ c) :
    0 < lmErrGen sq bestfit rmse x y len i := by
  have h1 := h.arm1
  have hlen := sub_pos.mpr (h.x_lt (i := 0) (j := len - 1) (by omega) (by omega))
  rw [lmErrGen_eq sq bestfit rmse x y len i (by omega)]
  apply lmCost_pos hsq0 hsqpos rmse _ _ _ _
    (div_pos (sub_pos.mpr (h.x_lt (by omega) (by omega))) hlen)
    (div_pos (sub_pos.mpr (h.x_lt (by omega) (by omega))) hlen)
    (lmResid_nonneg _ _ _) (lmResid_nonneg _ _ _)
  -- the corner is strictly inside one of the two sides
  rcases Nat.lt_or_gt_of_ne hic with hlt | hgt
  · exact Or.inr (h.resid_across bestfit i (len - i) (by omega) hlt (by omega))
  · exact Or.inl (h.resid_across bestfit 0 (i + 1) (by omega) (by omega) (by omega))

/-- full curve: error `0` at the corner -/
theorem lmErrGen_elbow_corner (h : IsElbow x y n c s1 s2) (hsq0 : sq 0 = 0) (bestfit rmse : Bool) :
    lmErrGen sq bestfit rmse x y n c = 0 :=
  lmErrGen_elbow_corner_prefix h hsq0 bestfit rmse n (by have := h.arm2; omega) (Nat.le_refl n)

/-- full curve: positive error at every other admissible split -/
theorem lmErrGen_elbow_off (h : IsElbow x y n c s1 s2) (hsq0 : sq 0 = 0)
    (hsqpos : ∀ v, 0 < v → 0 < sq v) (bestfit rmse : Bool) (i : Nat) (hi2 : 2 ≤ i)
    (hin : i + 3 ≤ n) (hic : i ≠ c) : 0 < lmErrGen sq bestfit rmse x y n i :=
  lmErrGen_elbow_off_prefix h hsq0 hsqpos bestfit rmse n (by have := h.arm2; omega) (Nat.le_refl n)
    i hi2 hin hic

/-- **C03 (L-method, one scan on a prefix).** On the first `len` points of an exact elbow, with
at least three points of the right arm kept (`c + 3 ≤ len ≤ n`), the first minimum of the error
over the splits `2 … len-3` is the corner — for all four Fit × Cost options. -/
theorem lmethod_scan_elbow_prefix (h : IsElbow x y n c s1 s2) (hsq0 : sq 0 = 0)
    (hsqpos : ∀ v, 0 < v → 0 < sq v) (bestfit rmse : Bool) (len : Nat) (hc : c + 3 ≤ len)
    (hn : len ≤ n) : lmethodScan (lmErrsGen sq bestfit rmse x y len) = c := by
  have h1 := h.arm1
  refine lmethodScan_eq_of_unique (lmErrGen sq bestfit rmse x y len) (by omega) (by omega)
    fun i hi2 hi hic => ?_
  rw [lmErrGen_elbow_corner_prefix h hsq0 bestfit rmse len hc hn]
  exact lmErrGen_elbow_off_prefix h hsq0 hsqpos bestfit rmse len hc hn i hi2 (by omega) hic

/-- **C03 (L-method, one scan, every Fit × Cost).** `get_knee` on the full curve returns the
corner for `point_fit`/`best_fit` × `rss`/`rmse`. -/
theorem lmethod_scan_elbow_gen (h : IsElbow x y n c s1 s2) (hsq0 : sq 0 = 0)
    (hsqpos : ∀ v, 0 < v → 0 < sq v) (bestfit rmse : Bool) :
    lmethodScan (lmErrsGen sq bestfit rmse x y n) = c :=
  lmethod_scan_elbow_prefix h hsq0 hsqpos bestfit rmse n (by have := h.arm2; omega) (Nat.le_refl n)

theorem IsElbow.scanAt (h : IsElbow x y n c s1 s2) (hsq0 : sq 0 = 0)
    (hsqpos : ∀ v, 0 < v → 0 < sq v) (bestfit rmse : Bool) (cutoff : Nat) (hc : c + 2 ≤ cutoff) :
    lmScanAt (lmErrsGen sq bestfit rmse x y) n cutoff = c := by
  have h2 := h.arm2
  unfold lmScanAt
  exact lmethod_scan_elbow_prefix h hsq0 hsqpos bestfit rmse _ (by omega) (by omega)

/-- **C03 (L-method, every fit, every refinement option, every `limit`).**
`lmethod.knee(points, fit, it, limit)` (its scans use the default cost `Cost.rmse`) returns the
corner: every cutoff the refinement can choose keeps at least three points of the right arm, so every
scan finds the corner again (`IsElbow.scanAt`); how each option then stops: `lmethodKnee_of_scan`. -/
theorem lmethod_elbow_gen (h : IsElbow x y n c s1 s2) (hsq0 : sq 0 = 0)
    (hsqpos : ∀ v, 0 < v → 0 < sq v) (bestfit : Bool) (mode : Refinement) (limit : Nat) :
    lmethodKneeGen sq bestfit x y mode n limit = some c := by
  have h1 := h.arm1
  have h2 := h.arm2
  exact lmethodKnee_of_scan _ mode n limit c (by omega) (by omega)
    fun cutoff hc => h.scanAt hsq0 hsqpos bestfit true cutoff hc

/-- non-vacuity of the two hypotheses on `sq`: the identity satisfies both -/
theorem id_sq_hyps : (fun v : Rat => v) 0 = 0 ∧ ∀ v : Rat, 0 < v → 0 < (fun v : Rat => v) v :=
  ⟨rfl, fun _ hv => hv⟩

end Knee
