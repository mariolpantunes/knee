import Knee.Lemmas.IsRdp
/-!
# C04 — threshold RDP keeps a segment only if it fits and splits only where it must

`IsRDP isR2 t cst dst l r segs` (Knee/Lemmas/IsRdp.lean) is the nondeterministic specification of a
recursive Ramer-Douglas-Peucker partition of `[l, r)`.  Oracle-parametric: "under the library's own
cost and distance primitives", for all 5 cost metrics (`r2`, `rmspe`, `rmsle`, `rpd`, `smape`) × 2 distances (shortest, perpendicular) at once.
-/
namespace Knee

/-- **C04.** The output of `rdp.rdp` is a recursive RDP partition of the whole curve. -/
theorem rdp_is_recursive_partition (isR2 : Bool) (t : Rat) (cst : Nat → Nat → Rat) (dst : Nat → Nat → List Rat)
    (n : Nat) (hn : 2 ≤ n) (ht : if isR2 then t ≤ 1 else 0 < t) (hd : ∀ l r, (dst l r).length = r - l) :
    ∃ segs, IsRDP isR2 t cst dst 0 n segs ∧ rdp isR2 t cst dst n = some (segsToResult n segs) := by
  have hst := rdpSteps_le cst ht hd (2 * n) [(0, n)] (by simpa using hn)
  have hlt : rdpSteps isR2 t cst dst (2 * n) [(0, n)] < 2 * n := by simp only [pot] at hst; omega
  obtain ⟨res, hres⟩ := rdpLoop_of_steps_lt _ _ [] hlt
  exact ⟨_, rdpRec_isRDP ht hd 0 n, by simp [rdp, hres, rdpLoop_eq_rdpRec ht hd hres]⟩

/-- **C04 (a).** Every retained segment has a cost on the accepting side of `t`
(`cost < t`, or `R² ≥ t`); segments of ≤ 2 points count as accepted by the code's constant. -/
theorem retained_segment_accepts {isR2 : Bool} {t : Rat} {cst : Nat → Nat → Rat} {dst : Nat → Nat → List Rat}
    {l r : Nat} {segs : List (Nat × Nat)} (h : IsRDP isR2 t cst dst l r segs) :
    ∀ p ∈ segs, curved isR2 t (segCost isR2 cst p.1 p.2) = false := by
  induction h with
  | leaf l r hc => exact fun p hp => List.mem_singleton.mp hp ▸ hc
  | node l r s L R _ _ _ _ _ _ ihL ihR => exact fun p hp => (List.mem_append.mp hp).elim (ihL p) (ihR p)

/-- **C04 (b).** Every retained interior index is explained by a recursive split: it lies strictly
inside a visited range `[l', r')` whose cost was on the rejecting side and no interior point of
that range is farther from its chord. -/
theorem retained_interior_explained {isR2 : Bool} {t : Rat} {cst : Nat → Nat → Rat} {dst : Nat → Nat → List Rat}
    {l r : Nat} {segs : List (Nat × Nat)} (h : IsRDP isR2 t cst dst l r segs) :
    ∀ p ∈ segs, p.1 ≠ l → ∃ l' r' s, curved isR2 t (segCost isR2 cst l' r') = true ∧ 1 ≤ s ∧ s + 2 ≤ r' - l' ∧
      l ≤ l' ∧ r' ≤ r ∧ p.1 = l' + s ∧
      ∀ j, 1 ≤ j → j + 1 < r' - l' → (dst l' r')[j]?.getD 0 ≤ (dst l' r')[s]?.getD 0 := by
  induction h with
  | leaf l r _ =>
    intro p hp hne
    simp only [List.mem_singleton] at hp
    subst hp
    exact absurd rfl hne
  | node l r s L R hc h1 h2 hmax _ _ ihL ihR =>
    intro p hp hne
    rcases List.mem_append.mp hp with hp | hp
    · obtain ⟨l', r', s', a1, a2, a3, a4, a5, a6, a7⟩ := ihL p hp hne
      have hsr : l + (s + 1) ≤ r := Nat.le_of_lt (Nat.add_lt_of_lt_sub' h2)
      exact ⟨l', r', s', a1, a2, a3, a4, Nat.le_trans a5 hsr, a6, a7⟩
    · by_cases hps : p.1 = l + s
      · exact ⟨l, r, s, hc, h1, h2, Nat.le_refl _, Nat.le_refl _, hps, hmax⟩
      · obtain ⟨l', r', s', a1, a2, a3, a4, a5, a6, a7⟩ := ihR p hp hps
        exact ⟨l', r', s', a1, a2, a3, Nat.le_trans (Nat.le_add_right l s) a4, a5, a6, a7⟩

/-- the partition of `[l, r)` tiles it: consecutive retained segments share an end point, from `l` to `r - 1` -/
theorem partition_tiles {isR2 : Bool} {t : Rat} {cst : Nat → Nat → Rat} {dst : Nat → Nat → List Rat}
    {l r : Nat} {segs : List (Nat × Nat)} (h : IsRDP isR2 t cst dst l r segs) (hlr : l + 2 ≤ r) : IsChain r l segs :=
  IsRDP_tiles h hlr

/-! Non-vacuity: a derivation with a real split exists. -/
example : IsRDP false (1/2) (fun l r => if l = 0 ∧ r = 3 then 1 else 0) (fun _ _ => [0, 1, 0]) 0 3 ([(0, 2)] ++ [(1, 3)]) := by
  refine IsRDP.node 0 3 1 _ _ (by decide +kernel) (by decide) (by decide) ?_ (IsRDP.leaf _ _ (by decide +kernel)) (IsRDP.leaf _ _ (by decide +kernel))
  intro j h1 h2
  have : j = 1 := by omega
  subst this
  decide +kernel

end Knee
