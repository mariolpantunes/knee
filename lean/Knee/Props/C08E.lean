import Knee.Props.C08F
/-!
# C08E — the whole pipeline, end to end

Model: `Knee.pipelineFull` (`Knee/Model/PipelineFull.lean`): threshold RDP → `multiKnee` on the
reduced curve → worst-knee filter → corner filter → cluster filter → index mapping.
`pipelineFull` is the configuration `(.rdp isR2 t, .rank score, .map)` of `pipelineCfg`
(`pipelineFull_is_instance`), and the theorem is that instance of `pipelineCfg_end_to_end` (C08F).
Oracles: every floating-point quantity (`cst`, `dst`, `det`, `gate`, `h`, `iou`,
`labelsOf`, `score`); the only contracts are the ones of the component theorems (`hd` : the distance
oracle returns one value per point of the range, `hdet` : the detector's range contract on ranges
longer than `t2`, `hl` : the linkage assigns one label per knee).
-/
namespace Knee

/-- **C08E (end to end).** For every choice of the oracles, on a curve of `n ≥ 2` points with the
threshold in its domain, the whole pipeline completes; the simplifier's output `reduced` is a
strictly increasing index list from `0` to `n - 1`; the multi-knee stage returns strictly increasing
positions `knees` of the reduced curve (never its last point); every filter stage returns a
subsequence of its input; from the worst-knee filter onwards the heights are non-increasing from
left to right; and the reported knees `S.mapped` are strictly increasing original indices below
`n`, each a retained simplification point, namely the one at the surviving reduced-space position
(original and reduced coordinates coincide), with no knee lost or duplicated by the mapping. -/
theorem pipeline_end_to_end (isR2 : Bool) (t : Rat) (cst : Nat → Nat → Rat) (dst : Nat → Nat → List Rat)
    (n : Nat) (det : Nat → Nat → Option Nat) (gate : Nat → Nat → Bool) (t2 : Nat)
    (h : Nat → Rat) (iou : Nat → Rat) (tc : Rat) (labelsOf : List Nat → List Nat)
    (score : List Nat → List Rat)
    (hn : 2 ≤ n) (ht : if isR2 then t ≤ 1 else 0 < t) (hd : ∀ l r, (dst l r).length = r - l)
    (hdet : DetOKLarge t2 det) (hl : ∀ ks, (labelsOf ks).length = ks.length) :
    ∃ reduced knees S,
      pipelineFull isR2 t cst dst n det gate t2 h iou tc labelsOf score = some (reduced, S) ∧
      (reduced.Pairwise (· < ·) ∧ reduced[0]? = some 0 ∧ reduced.getLast? = some (n - 1)) ∧
      (multiKnee det gate t2 reduced.length = some knees ∧ knees.Pairwise (· < ·) ∧
        ∀ k ∈ knees, k + 2 ≤ reduced.length) ∧
      (S.worst.Sublist knees ∧ S.corner.Sublist S.worst ∧ S.cluster.Sublist S.corner) ∧
      (S.worst.Pairwise (fun a b => h b ≤ h a) ∧ S.corner.Pairwise (fun a b => h b ≤ h a) ∧
        S.cluster.Pairwise (fun a b => h b ≤ h a)) ∧
      S.mapped = S.cluster.map (fun k => reduced[k]?.getD 0) ∧ S.mapped.Pairwise (· < ·) ∧
      (∀ x ∈ S.mapped, x ∈ reduced) ∧ (∀ x ∈ S.mapped, x < n) ∧
      S.mapped.length = S.cluster.length := by
  obtain ⟨S, hS, ⟨hpw, h0, hlast, _⟩, hk, hsub, hh, hfin⟩ :=
    pipelineCfg_end_to_end (.rdp isR2 t) ⟨cst, dst, fun _ _ _ => (0, 0), fun _ => 0⟩ n det gate t2
      h iou tc labelsOf (.rank score) .map hn ht hd hdet hl
  exact ⟨S.reduced, S.knees, _, by rw [pipelineFull_is_instance, hS]; rfl, ⟨hpw, h0, hlast⟩, hk,
    hsub, hh, hfin⟩

/-! Non-vacuity: the whole pipeline evaluated on a concrete instance (24 points, the oracle
families of the C08F examples declared again; the cost oracle splits every range of more than 3 points, the distance oracle peaks in the middle, the detector
answers the middle of every range of at least 3 points).  RDP keeps 16 points, `multiKnee` finds 7
knees, the worst-knee filter drops knee 3 (height 39/2 > 19), the corner filter drops knee 5
(IoU 3/4 ≥ 2/5), the cluster filter keeps the best of each of the two clusters, and the survivors
map to `reduced[1] = 2`, `reduced[13] = 20`.  The hypotheses of the theorem hold on this data. -/
private def cstE : Nat → Nat → Rat := fun l r => if r - l > 3 then 1 else 0
private def dstE : Nat → Nat → List Rat := fun l r =>
  (List.range (r - l)).map fun i => ((min i (r - l - 1 - i) : Nat) : Rat)
private def detE : Nat → Nat → Option Nat := fun l r =>
  if r - l ≥ 3 then some ((r - l - 2) / 2) else none
private def hE : Nat → Rat := fun k => if k = 3 then 39/2 else 20 - ((k : Int) : Rat)
private def iouE : Nat → Rat := fun k => if k = 5 then 3/4 else 0
private def labE : List Nat → List Nat := fun ks => ks.map fun k => if k < 4 then 0 else 1
private def scoreE : List Nat → List Rat := fun c => c.map fun k => ((k : Int) : Rat)

example : pipelineFull false (1/2) cstE dstE 24 detE (fun _ _ => true) 1 hE iouE (2/5) labE scoreE
    = some ([0, 2, 3, 5, 6, 8, 9, 11, 12, 14, 15, 17, 18, 20, 21, 23],
        { worst := [1, 5, 7, 9, 11, 13], corner := [1, 7, 9, 11, 13], cluster := [1, 13],
          mapped := [2, 20] }) := by decide +kernel
example : multiKnee detE (fun _ _ => true) 1 16 = some [1, 3, 5, 7, 9, 11, 13] := by decide +kernel
example : DetOKLarge 1 detE := by
  intro l r k _ h2
  rw [detE] at h2
  split at h2
  · cases h2; omega
  · cases h2
example : ∀ l r, (dstE l r).length = r - l := by
  intro l r; rw [dstE, List.length_map, List.length_range]
example : ∀ ks, (labE ks).length = ks.length := fun _ => List.length_map _

end Knee
