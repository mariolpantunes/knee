import Knee.Lemmas.MultiKnee
/-!
# C02 — the multi-knee work-stack loop terminates, is sorted, in range and self-similar

Model: `Knee.multiKneeLoop` / `Knee.multiKnee` (multi_knee.multi_knee: explicit stack, right part
processed first, `knees.sort()` at the end) and `Knee.multiKneeRec` (the in-order recursion; equal under
the contract, `multiKnee_eq_rec`).  The detector and the curvature gate are oracle parameters; the only
assumption on the detector is `DetOK` (a returned relative knee index `k` satisfies
`k + 2 ≤ len`, so both children are non-empty and strictly shorter), resp. `DetInterior`
(additionally `1 ≤ k`).  Naturals only; no tolerance.
-/
namespace Knee

variable {det : Nat → Nat → Option Nat} {gate : Nat → Nat → Bool} {t2 n : Nat}

/-- **C02 (termination).** On a non-empty curve the fuel `2n + 1` of `multiKnee` is never
exhausted: a range of `m ≥ 1` points costs at most `2m - 1` iterations, plus one iteration to see
the empty stack.  For `n = 0` the model spends its one unit of fuel popping `(0, 0)` and reports
exhaustion (`none`), where Python returns `[]`: hence `1 ≤ n` here and in every theorem below. -/
theorem multiKnee_total (hc : DetOK det) (hn : 1 ≤ n) : ∃ ks, multiKnee det gate t2 n = some ks :=
  ⟨_, multiKnee_eq_rec_large (hc.detOKLarge t2) hn⟩

/-- **C02 (step count).** `2n` loop iterations always suffice (one less than the fuel provided),
and any larger fuel gives the very same unsorted result. -/
theorem multiKnee_steps (hc : DetOK det) (hn : 1 ≤ n) :
    ∃ res, ∀ f, 2 * n ≤ f → multiKneeLoop det gate t2 f [(0, n)] [] = some res :=
  (multiKneeLoop_top (hc.detOKLarge t2) hn).imp fun _ h => h.2

/-- **C02 (unfolding).** With enough fuel the recursion satisfies its defining equation at the
*same* fuel: the result on `[l, r)` is the result on `[l, l+k]`, the knee `l + k`, and the result on
`[l+k+1, r)`, in this order. -/
theorem multiKneeRec_unfold (hc : DetOK det) (l r f : Nat) (hf : r - l ≤ f) :
    multiKneeRec det gate t2 f l r =
      if r - l > t2 ∧ gate l r = true then
        (match det l r with
          | some k => multiKneeRec det gate t2 f l (l + k + 1) ++ (l + k) :: multiKneeRec det gate t2 f (l + k + 1) r
          | none => [])
      else [] :=
  multiKneeRec_unfold_large (hc.detOKLarge t2) l r f hf

/-- **C02 (stack loop = recursion).** The sorted output of the work-stack loop is exactly the
in-order recursion on `[0, n)`. -/
theorem multiKnee_eq_rec (hc : DetOK det) (hn : 1 ≤ n) :
    multiKnee det gate t2 n = some (multiKneeRec det gate t2 n 0 n) :=
  multiKnee_eq_rec_large (hc.detOKLarge t2) hn

/-- **C02 (sorted, in range; top level).** `multi_knee` returns a strictly increasing list of
indices, none of which is the last point. -/
theorem multiKnee_sorted_range (hc : DetOK det) (hn : 1 ≤ n) :
    ∃ ks, multiKnee det gate t2 n = some ks ∧ ks.Pairwise (· < ·) ∧ ∀ x ∈ ks, x + 2 ≤ n :=
  multiKnee_sorted_range_large (hc.detOKLarge t2) hn

/-- **C02 (interior; top level).** With a strictly interior detector the first point is never a
knee either. -/
theorem multiKnee_interior (hc : DetInterior det) (hn : 1 ≤ n) :
    ∃ ks, multiKnee det gate t2 n = some ks ∧ ks.Pairwise (· < ·) ∧ ∀ x ∈ ks, 1 ≤ x ∧ x + 2 ≤ n :=
  multiKnee_interior_large (hc.detInteriorLarge t2) hn

/-- **C02 (base case).** A curve with at most `t2` points, or one whose end-point line is not on
the curved side of `t1`, has no knees.  No assumption on the detector (it is never called). -/
theorem multiKnee_empty (hn : 1 ≤ n) (h : n ≤ t2 ∨ gate 0 n = false) :
    multiKnee det gate t2 n = some [] := by
  have hg : ¬ (n - 0 > t2 ∧ gate 0 n = true) := fun ⟨h1, h2⟩ =>
    h.elim (fun h => Nat.not_lt.mpr h h1) fun h => Bool.false_ne_true (h.symm.trans h2)
  obtain ⟨m, rfl⟩ : ∃ m, n = m + 1 := Nat.exists_eq_add_of_le' hn
  rw [multiKnee, Nat.mul_add_one, Nat.add_assoc, multiKneeLoop_cons, if_neg hg]
  rfl

/-- **C02 (self-similarity).** If the top-level range passes the gate and the detector answers
`k`, the result is `k` together with the result on `points[0..k]` and the result on
`points[k+1..]` (both already in absolute indices).  (`hn` follows from `h1`.) -/
theorem multiKnee_self_similar (hc : DetOK det) (hn : 1 ≤ n) (h1 : n > t2) (h2 : gate 0 n = true)
    (k : Nat) (hk : det 0 n = some k) :
    multiKnee det gate t2 n =
      some (multiKneeRec det gate t2 n 0 (k + 1) ++ k :: multiKneeRec det gate t2 n (k + 1) n) :=
  multiKnee_self_similar_large (hc.detOKLarge t2) h1 h2 k hk

/-! Non-vacuity: a concrete detector satisfying the (strict) contract on which four knees are
found across three levels of recursion, and a gated variant. -/
example : DetInterior (fun l r => if r - l ≥ 3 then some ((r - l) / 2) else none) := by
  intro l r k h
  simp only at h
  split at h
  · simp only [Option.some.injEq] at h; omega
  · simp at h
example : multiKnee (fun l r => if r - l ≥ 3 then some ((r - l) / 2) else none) (fun _ _ => true) 2 7
    = some [1, 2, 3, 5] := by decide +kernel
example : multiKnee (fun l r => if r - l ≥ 3 then some ((r - l) / 2) else none)
    (fun l r => r - l != 4) 0 12 = some [3, 5, 6, 8, 9] := by decide +kernel

end Knee
