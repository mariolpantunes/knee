import Knee.Lemmas.GlobalCost
/-!
# C15 — global reconstruction cost, shared segment cache, global RMSE / MIP

`evaluation.compute_global_cost / compute_cost / compute_global_rmse / mip`.  `segErr l r` is the per-segment
partial-cost oracle and every theorem holds for every oracle; "exact" in a name means: with the Layer-N oracle
`segErrQ`.  The `cache['tss']` entry of `compute_cost` is the parameter `tss`, the model's cache holds segment keys
only; `mip`'s cache does not appear in `mipQ` (`rss` is a function), a cache being transparent as proved here.
-/
namespace Knee

theorem cacheOK_empty (segErr : Nat → Nat → Rat) : CacheOK segErr [] :=
  fun _ he => (List.not_mem_nil he).elim

/-- **C15 (one lookup).** Against a cache whose stored values are all fresh values, a lookup
returns the fresh value (hit or miss) and leaves a cache that still satisfies the invariant. -/
theorem lookupSeg_ok {segErr : Nat → Nat → Rat} {c : Cache} (h : CacheOK segErr c) (k : Nat × Nat) :
    (lookupSeg segErr c k).1 = segErrG segErr k.1 k.2 ∧ CacheOK segErr (lookupSeg segErr c k).2 := by
  unfold lookupSeg
  cases hg : cacheGet c k with
  | some v => exact ⟨cacheGet_some_of_ok h hg, h⟩
  | none =>
    refine ⟨rfl, fun e he => ?_⟩
    rcases List.mem_cons.1 he with rfl | he
    · rfl
    · exact h e he

/-- **C15 (segment loop).** The loop over the segments of one breakpoint set returns exactly the
fresh segment errors, in order, and preserves the invariant. -/
theorem evalSegs_ok {segErr : Nat → Nat → Rat} {c : Cache} (h : CacheOK segErr c)
    (ks : List (Nat × Nat)) :
    (evalSegs segErr ks c).1 = ks.map (fun p => segErrG segErr p.1 p.2)
      ∧ CacheOK segErr (evalSegs segErr ks c).2 := by
  fun_induction evalSegs segErr ks c with
  | case1 c => exact ⟨rfl, h⟩
  | case2 k ks c r rest ih =>
    obtain ⟨h1, h2⟩ := lookupSeg_ok h k
    obtain ⟨h3, h4⟩ := ih h2
    exact ⟨congrArg₂ List.cons h1 h3, h4⟩

/-- **C15 (one query).** `compute_global_cost` against any invariant-satisfying cache returns the
value computed with no cache at all, and preserves the invariant. -/
theorem evalShared_eq_fresh (kind : MKind) (n : Nat) (tss : Rat) {segErr : Nat → Nat → Rat}
    {c : Cache} (h : CacheOK segErr c) (red : List Nat) :
    (evalShared kind n tss segErr c red).1 = gcostQ kind n tss segErr red
      ∧ CacheOK segErr (evalShared kind n tss segErr c red).2 := by
  obtain ⟨h1, h2⟩ := evalSegs_ok h (pairsOf red)
  rw [evalShared_eq_costOfSum, gcostQ_eq_costOfSum, h1]
  exact ⟨rfl, h2⟩

theorem evalShared_fresh (kind : MKind) (n : Nat) (tss : Rat) (segErr : Nat → Nat → Rat)
    (red : List Nat) :
    (evalShared kind n tss segErr [] red).1 = gcostQ kind n tss segErr red :=
  (evalShared_eq_fresh kind n tss (cacheOK_empty segErr) red).1

/-- **C15 (cache transparency, main result).** Evaluating any sequence of breakpoint sets against
one shared cache (starting from any invariant-satisfying cache) returns exactly the values of
evaluating each with a fresh cache. -/
theorem runShared_eq_fresh (kind : MKind) (n : Nat) (tss : Rat) {segErr : Nat → Nat → Rat}
    {c : Cache} (h : CacheOK segErr c) (queries : List (List Nat)) :
    runShared kind n tss segErr c queries = queries.map (gcostQ kind n tss segErr) := by
  induction queries generalizing c with
  | nil => rfl
  | cons q qs ih =>
    obtain ⟨h1, h2⟩ := evalShared_eq_fresh kind n tss h q
    simp only [runShared, List.map_cons, h1, ih h2]

/-- the empty cache holds no value, hence no stale one: transparency without a hypothesis -/
theorem runShared_empty_eq_fresh (kind : MKind) (n : Nat) (tss : Rat) (segErr : Nat → Nat → Rat)
    (queries : List (List Nat)) :
    runShared kind n tss segErr [] queries = queries.map (gcostQ kind n tss segErr) :=
  runShared_eq_fresh kind n tss (cacheOK_empty segErr) queries

/-- the global cost is never negative (both branches clip at 0) -/
theorem gcost_nonneg (kind : MKind) (n : Nat) (tss : Rat) (segErr : Nat → Nat → Rat)
    (red : List Nat) : 0 ≤ gcostQ kind n tss segErr red := by
  rw [gcostQ_eq_costOfSum]; exact costOfSum_nonneg _ _ _ _

theorem segments_le2_zero (segErr : Nat → Nat → Rat) (l r : Nat) (h : r - l + 1 ≤ 2) :
    segErrG segErr l r = 0 := by
  unfold segErrG; rw [if_pos h]

theorem sumErr_all_breakpoints (segErr : Nat → Nat → Rat) (n : Nat) :
    sumErr segErr (List.range n) = 0 := by
  refine List.sum_eq_zero (List.forall_mem_map.2 fun p hp => ?_)
  rw [List.range_eq_range'] at hp
  have := pairsOf_range'_succ n 0 p hp
  exact segments_le2_zero segErr _ _ (by omega)

/-- when every point is a breakpoint the cost is 0, and 1 for R² (no hypothesis on `n` is needed) -/
theorem gcost_all_breakpoints (kind : MKind) (n : Nat) (tss : Rat) (segErr : Nat → Nat → Rat) :
    gcostQ kind n tss segErr (List.range n) = (if kind = .r2 then 1 else 0) := by
  rw [gcostQ_eq_costOfSum, sumErr_all_breakpoints, costOfSum_zero]

/-- for the non-R² kinds and a non-negative error sum, the cost is the sum divided by
`n + #segments − 1` (every interior breakpoint is counted once per adjoining segment).  The divisor is `0`
only when `n + #segments ≤ 1`; there the model's `s / 0 = 0` stands where the code divides by zero. -/
theorem gcost_divisor (kind : MKind) (n : Nat) (tss : Rat) (segErr : Nat → Nat → Rat)
    (red : List Nat) (hk : kind ≠ .r2) (hs : 0 ≤ sumErr segErr red) :
    gcostQ kind n tss segErr red
      = sumErr segErr red / ((n + (red.length - 1) - 1 : Nat) : Rat) := by
  rw [gcostQ_eq_costOfSum, costOfSum_of_ne hk tss hs (Nat.cast_nonneg _)]

/-- `len(segment_errors) = len(reduced) - 1`, the count that enters the divisor -/
theorem gcost_segments (red : List Nat) : (pairsOf red).length = red.length - 1 :=
  pairsOf_eq_zip red ▸ length_zip_tail red

theorem gcost_r2_clip (n : Nat) (tss : Rat) (segErr : Nat → Nat → Rat) (red : List Nat)
    (ht : tss ≠ 0) :
    gcostQ .r2 n tss segErr red
      = if 1 - sumErr segErr red / tss < 0 then 0 else 1 - sumErr segErr red / tss := by
  rw [gcostQ_eq_costOfSum, costOfSum_r2, if_neg ht]

theorem sumErr_nonneg (segErr : Nat → Nat → Rat) (red : List Nat) (h : ∀ l r, 0 ≤ segErr l r) :
    0 ≤ sumErr segErr red :=
  sum_map_nonneg fun p _ => by
    unfold segErrG
    split
    · exact le_refl _
    · exact h _ _

/-- every partial cost is non-negative: sums of squares, of absolute values, and of ratios with
non-negative numerator and positive denominator `… + epsM`; for `rmsle`, which has no term at this
layer, `partialQ` is `0` and the statement is empty -/
theorem partialQ_nonneg (kind : MKind) (y yh : List Rat) : 0 ≤ partialQ kind y yh := by
  rw [partialQ_eq_term]; exact zipWith_sum_nonneg (termQ_nonneg kind) y yh

theorem segErrQ_nonneg (kind : MKind) (xs ys : List Rat) (l r : Nat) :
    0 ≤ segErrQ kind xs ys l r := by
  unfold segErrQ; exact partialQ_nonneg _ _ _

/-- with the exact oracle the global cost needs no clipping for the non-R² kinds -/
theorem gcost_exact_divisor (kind : MKind) (n : Nat) (tss : Rat) (xs ys : List Rat)
    (red : List Nat) (hk : kind ≠ .r2) :
    gcostQ kind n tss (segErrQ kind xs ys) red
      = sumErr (segErrQ kind xs ys) red / ((n + (red.length - 1) - 1 : Nat) : Rat) :=
  gcost_divisor kind n tss _ red hk (sumErr_nonneg _ red (segErrQ_nonneg kind xs ys))

theorem grmseSq_nonneg (rss : Nat → Nat → Rat) (n : Nat) (red : List Nat)
    (h : ∀ l r, 0 ≤ rss l r) : 0 ≤ grmseSq rss n red := by
  unfold grmseSq
  exact div_nonneg (sum_map_nonneg fun p _ => h p.1 p.2) (Nat.cast_nonneg _)

theorem deleteAt_eq_eraseIdx (l : List Nat) (i : Nat) : deleteAt l i = l.eraseIdx i :=
  (List.eraseIdx_eq_take_drop_succ l i).symm

theorem deleteAt_length (l : List Nat) (i : Nat) (h : i < l.length) :
    (deleteAt l i).length = l.length - 1 := by
  rw [deleteAt_eq_eraseIdx, List.length_eraseIdx_of_lt h]

theorem sortRat_perm (l : List Rat) : (sortRat l).Perm l := sortRat_eq l ▸ sortBy_perm l

theorem sortRat_sorted (l : List Rat) : (sortRat l).Pairwise (· ≤ ·) :=
  sortRat_eq l ▸ sortBy_pairwise l (fun _ _ h => h) (fun _ _ h => (not_le.1 h).le) fun _ _ _ => le_trans

theorem sortRat_length (l : List Rat) : (sortRat l).length = l.length := (sortRat_perm l).length_eq

theorem medianQ_mem_range (l : List Rat) (hne : l ≠ []) :
    ∃ a ∈ l, ∃ b ∈ l, a ≤ medianQ l ∧ medianQ l ≤ b := by
  have hperm := sortRat_perm l
  have hsorted := sortRat_sorted l
  unfold medianQ
  generalize sortRat l = s at hperm hsorted ⊢
  have hpos : 0 < s.length := by rw [hperm.length_eq]; exact List.length_pos_iff.2 hne
  have hmem (i : Nat) (hi : i < s.length) : s[i]?.getD 0 ∈ l := hperm.mem_iff.1 (getD_mem' hi)
  have h2 : s.length / 2 < s.length := Nat.div_lt_self hpos (by decide)
  simp only [if_neg (Nat.ne_of_gt hpos)]
  split
  · exact ⟨_, hmem _ h2, _, hmem _ h2, le_refl _, le_refl _⟩
  · -- even length: the mean of the two middle elements lies between them
    have h1 : s.length / 2 - 1 < s.length := lt_of_le_of_lt (Nat.sub_le _ _) h2
    have hle : s[s.length / 2 - 1]?.getD 0 ≤ s[s.length / 2]?.getD 0 := by
      rcases Nat.eq_or_lt_of_le (Nat.sub_le (s.length / 2) 1) with e | hlt
      · rw [e]
      · exact getD_rel_of_pairwise hsorted hlt h2
    refine ⟨_, hmem _ h1, _, hmem _ h2, ?_, ?_⟩
    -- `zero_lt_two' Rat`, not `two_pos`: with the type left open the two lines are slow to check
    · exact (le_div_iff₀ (zero_lt_two' Rat)).2 (by rw [mul_two]; exact add_le_add_right hle _)
    · exact (div_le_iff₀ (zero_lt_two' Rat)).2 (by rw [mul_two]; exact add_le_add_left hle _)

theorem medianQ_nonneg (l : List Rat) (h : ∀ a ∈ l, 0 ≤ a) : 0 ≤ medianQ l := by
  by_cases hne : l = []
  · rw [hne, medianQ_nil]
  · obtain ⟨a, ha, _, _, hle, _⟩ := medianQ_mem_range l hne
    exact le_trans (h a ha) hle

/-- the median absolute deviation returned by `mip` is non-negative, for every `sq` and oracle -/
theorem mipQ_mad_nonneg (sq : Rat → Rat) (rss : Nat → Nat → Rat) (n : Nat) (red : List Nat) :
    0 ≤ (mipQ sq rss n red).2 := by
  unfold mipQ
  -- `intro` / `obtain`, not a `List.forall_mem_map` term: unification would unfold `mipQ`'s `let`s
  apply medianQ_nonneg
  intro a ha
  obtain ⟨v, -, rfl⟩ := List.mem_map.1 ha
  exact rabs_nonneg _

/-! Concrete oracles: `segErr l r = r - l` and a quadratic `rss l r = (r - l)²`. -/

/- a 3-query history: the shared-cache run equals the fresh values, and they are non-trivial -/
example :
    runShared .smape 7 0 (fun l r => ((r - l : Nat) : Rat)) [] [[0, 3, 6], [0, 3, 5, 6], [0, 2, 5, 6]]
      = [3 / 4, 5 / 9, 5 / 9]
    ∧ [[0, 3, 6], [0, 3, 5, 6], [0, 2, 5, 6]].map (gcostQ .smape 7 0 (fun l r => ((r - l : Nat) : Rat)))
      = [3 / 4, 5 / 9, 5 / 9] := by
  decide +kernel
/- the second query `[0,3,5,6]` hits the cache left by the first on segment `(0,3)` (and misses on
`(3,5)`), and the third hits `(5,6)` stored by the second -/
example :
    (evalShared .smape 7 0 (fun l r => ((r - l : Nat) : Rat)) [] [0, 3, 6]).2
      = [((3, 6), 3), ((0, 3), 3)]
    ∧ cacheGet (evalShared .smape 7 0 (fun l r => ((r - l : Nat) : Rat)) [] [0, 3, 6]).2 (0, 3)
      = some 3
    ∧ cacheGet (evalShared .smape 7 0 (fun l r => ((r - l : Nat) : Rat)) [] [0, 3, 6]).2 (3, 5)
      = none
    ∧ cacheGet (evalShared .smape 7 0 (fun l r => ((r - l : Nat) : Rat))
        (evalShared .smape 7 0 (fun l r => ((r - l : Nat) : Rat)) [] [0, 3, 6]).2
        [0, 3, 5, 6]).2 (5, 6) = some 0 := by
  decide +kernel
/- a poisoned cache (violating `CacheOK`) does change the answer: the hypothesis is not idle -/
example :
    (evalShared .smape 7 0 (fun l r => ((r - l : Nat) : Rat)) [((0, 3), 100)] [0, 3, 6]).1
      ≠ gcostQ .smape 7 0 (fun l r => ((r - l : Nat) : Rat)) [0, 3, 6] := by
  decide +kernel
example : gcostQ .smape 5 0 (fun l r => ((r - l : Nat) : Rat)) [0, 1, 2, 3, 4] = 0
    ∧ gcostQ .r2 5 3 (fun l r => ((r - l : Nat) : Rat)) [0, 1, 2, 3, 4] = 1 := by
  decide +kernel
/- R² clipping: active (`1 - 6/2 < 0`) and inactive (`1 - 6/12`) -/
example : gcostQ .r2 7 2 (fun l r => ((r - l : Nat) : Rat)) [0, 3, 6] = 0
    ∧ gcostQ .r2 7 12 (fun l r => ((r - l : Nat) : Rat)) [0, 3, 6] = 1 / 2 := by
  decide +kernel
example : segErrG (fun l r => ((r - l : Nat) : Rat)) 4 5 = 0
    ∧ segErrG (fun l r => ((r - l : Nat) : Rat)) 4 6 = 2
    ∧ sumErr (fun l r => ((r - l : Nat) : Rat)) [0, 3, 6] = 6 := by
  decide +kernel
example : segErrQ .r2 [0, 1, 2, 3] [0, 2, 1, 3] 0 3 = 2
    ∧ segErrQ .smape [0, 1, 2, 3] [1, 2, 1, 3] 0 2 = 20000000000000000 / 30000000000000001 := by
  decide +kernel
example : medianQ [3, 1, 2] = 2 ∧ medianQ [4, 1, 3, 2] = 5 / 2
    ∧ sortRat [4, 1, 3, 2] = [1, 2, 3, 4] := by
  decide +kernel
example : deleteAt [0, 2, 3, 6] 1 = [0, 3, 6]
    ∧ grmseSq (fun l r => (((r - l) * (r - l) : Nat) : Rat)) 7 [0, 2, 3, 6] = 2
    ∧ mipQ (fun x => x) (fun l r => (((r - l) * (r - l) : Nat) : Rat)) 7 [0, 2, 3, 6]
      = (5 / 7, 1 / 7) := by
  decide +kernel

end Knee
