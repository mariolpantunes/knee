import Knee.Lemmas.Refine
/-!
# C06 — global RDP stops at the first refinement whose global cost meets the threshold

`S k := rdpFixed dst key n k` is the fixed-size refinement sequence (C05).  `accept red` says the
global reconstruction cost of the breakpoint set `red` is on the accepting side of `t`
(`acceptOf isR2 t gcs`); the theorems hold for EVERY such predicate, hence for every metric and
threshold and whatever the cost primitive returns.
-/
namespace Knee

/-- **C06, global RDP.** `grdp` returns `S_k` for the least `k ≥ 2` whose global cost is accepted, and
all `n` points if none is. -/
theorem grdp_eq_first (accept : List Nat → Bool) (dst : Nat → Nat → List Rat) (key : Nat → Nat → Nat → Rat × Rat)
    (n : Nat) (hn : 2 ≤ n) (hd : ∀ l r, (dst l r).length = r - l) :
    ∃ k, 2 ≤ k ∧ k ≤ n ∧ grdp accept dst key n = rdpFixed dst key n k ∧
      (accept (rdpFixed dst key n k) = true ∨ (k = n ∧ (rdpFixed dst key n k).length = n)) ∧
      ∀ k', 2 ≤ k' → k' < k → accept (rdpFixed dst key n k') = false := by
  have hlen := grdp_length accept key hd hn
  refine ⟨grdpSteps accept dst key n (rinit n) + 2, Nat.le_add_left .., grdpSteps_rinit_le accept key hd hn,
    grdp_eq_rdpFixed n, ?_, fun k' h2 hk => ?_⟩
  · rw [← grdp_eq_rdpFixed]
    exact (grdp_stop accept key hd hn).imp_right fun hl => ⟨hlen.symm.trans hl, hl⟩
  · rw [rdpFixed_eq_stepN]
    exact (grdpSteps_before n (rinit n) (k' - 2) (Nat.sub_lt_right_of_lt_add h2 hk)).1

/-- **C06, min-points variant.** `mp_grdp` returns `S_max(k*, min(m, n))` where `S_k*` is the global-RDP result. -/
theorem mp_eq (accept : List Nat → Bool) (dst : Nat → Nat → List Rat) (key : Nat → Nat → Nat → Rat × Rat)
    (n m : Nat) (hn : 2 ≤ n) (hd : ∀ l r, (dst l r).length = r - l) :
    ∃ k, 2 ≤ k ∧ k ≤ n ∧ grdp accept dst key n = rdpFixed dst key n k ∧ (rdpFixed dst key n k).length = k ∧
      mpGrdp accept dst key n m = rdpFixed dst key n (max k (min m n)) := by
  exact ⟨grdpSteps accept dst key n (rinit n) + 2, Nat.le_add_left .., grdpSteps_rinit_le accept key hd hn,
    grdp_eq_rdpFixed n, grdp_eq_rdpFixed (accept := accept) n ▸ grdp_length accept key hd hn, mpGrdp_eq accept key hd hn m⟩

/-- **C06, multi-threshold variant.** `min_point_rdp` returns the global-RDP result for the first
threshold (in the given, descending, order) whose result has at least `m` points, and the
fixed-size result for `m` if there is none. -/
theorem minpoint_eq (acceptAt : Rat → List Nat → Bool) (dst : Nat → Nat → List Rat) (key : Nat → Nat → Nat → Rat × Rat)
    (n m : Nat) (ts : List Rat) :
    (∃ pre t post, ts = pre ++ t :: post ∧ (∀ t' ∈ pre, (grdp (acceptAt t') dst key n).length < m) ∧
        m ≤ (grdp (acceptAt t) dst key n).length ∧ minPointRdp acceptAt dst key n m ts = grdp (acceptAt t) dst key n) ∨
    ((∀ t' ∈ ts, (grdp (acceptAt t') dst key n).length < m) ∧ minPointRdp acceptAt dst key n m ts = rdpFixed dst key n m) := by
  fun_induction minPointRdp acceptAt dst key n m ts with
  | case1 => exact .inr ⟨nofun, rfl⟩
  | case2 t ts r h => exact .inl ⟨[], t, ts, rfl, nofun, h, rfl⟩
  | case3 t ts r h ih =>
    have hlt : (grdp (acceptAt t) dst key n).length < m := Nat.lt_of_not_ge h
    rcases ih with ⟨pre, t0, post, he, hpre, hm, hres⟩ | ⟨hall, hres⟩
    · exact .inl ⟨t :: pre, t0, post, by rw [he]; rfl, List.forall_mem_cons.mpr ⟨hlt, hpre⟩, hm, hres⟩
    · exact .inr ⟨List.forall_mem_cons.mpr ⟨hlt, hall⟩, hres⟩

/-- the accepting side is monotone in the threshold, so with thresholds sorted in descending order
"first accepted in order" is "largest listed threshold that is accepted" -/
theorem acceptOf_mono (isR2 : Bool) (t t' : Rat) (gcs : List Nat → Rat) (red : List Nat)
    (h : if isR2 then t' ≤ t else t ≤ t') (ha : acceptOf isR2 t gcs red = true) : acceptOf isR2 t' gcs red = true := by
  cases isR2 with
  | true =>
    -- accepted at `t` means `t ≤ gcs red`; then `t' ≤ t ≤ gcs red`
    simp only [acceptOf, curved, if_true, Bool.not_eq_true', decide_eq_false_iff_not, Rat.not_lt] at ha ⊢
    exact Rat.le_trans h ha
  | false =>
    -- accepted at `t` means `gcs red < t`; then `gcs red < t ≤ t'`
    simp only [acceptOf, curved, Bool.false_eq_true, if_false, Bool.not_eq_true',
      decide_eq_false_iff_not, Rat.not_le] at ha ⊢
    exact Std.lt_of_lt_of_le ha h

end Knee
