import Knee.Props.C15
/-!
# C15S — the global cost IS the metric against the piecewise-linear interpolant

An INDEPENDENT specification: `interpQ xs ys red i` is `np.interp(x[i], x[red], y[red])`, written without
`fitQ` / `lineQ` / `drop` / `take`; the model's sums over segments (`gcostQ`, `grmseSq`) are proved equal to one sum
over all points against it.  The idea: without their left ends the segments tile `(0, n-1]`, and every breakpoint
has residual 0.
-/
namespace Knee

/-- `L[i]` (0 outside the list); the same function as `ptAt` of `Model/EvalTrace.lean` -/
def atQ (L : List Rat) (i : Nat) : Rat := L[i]?.getD 0

/-- the chord through the points number `a` and `b`, evaluated at `x_i` -/
def chordQ (xs ys : List Rat) (a b i : Nat) : Rat :=
  atQ ys a + (atQ ys b - atQ ys a) * (atQ xs i - atQ xs a) / (atQ xs b - atQ xs a)

/-- `np.interp(x[i], x[red], y[red])`: the piecewise-linear interpolant through the breakpoints,
at `x_i`.  Left of (or at) the first remaining breakpoint: its ordinate; inside `[a, b)`: the
chord; right of the last breakpoint: its ordinate (numpy's half-open intervals and clamping). -/
def interpQ (xs ys : List Rat) : List Nat → Nat → Rat
  | [], _ => 0
  | [a], _ => atQ ys a
  | a :: b :: t, i =>
    if i ≤ a then atQ ys a else if i < b then chordQ xs ys a b i else interpQ xs ys (b :: t) i

/-- the interpolant sampled at every abscissa of the curve -/
def interpL (xs ys : List Rat) (red : List Nat) : List Rat :=
  (List.range ys.length).map (interpQ xs ys red)

/-- interior breakpoints `red[1:-1]` -/
def innerOf (red : List Nat) : List Nat := (red.drop 1).dropLast

theorem take_drop_eq_map (L : List Rat) (l k : Nat) (h : l + k ≤ L.length) :
    (L.drop l).take k = (List.range' l k).map (atQ L) := by
  -- `L` is `atQ L` mapped over its index range; `drop` and `take` act on the range
  conv_lhs => rw [list_eq_map_range L 0]
  rw [← List.map_drop, ← List.map_take, List.range_eq_range', List.drop_range',
    List.take_range'_of_length_ge (by omega), Nat.zero_add, Nat.mul_one]
  rfl

theorem zipWith_map_range (f : Rat → Rat → Rat) (L : List Rat) (g : Nat → Rat) :
    List.zipWith f L ((List.range L.length).map g)
      = (List.range L.length).map fun i => f (atQ L i) (g i) := by
  conv_lhs => arg 2; rw [list_eq_map_range L 0]
  rw [List.zipWith_map, List.zipWith_self]
  rfl

/-- `np.interp` is exact at `x[a]` (no hypothesis) -/
theorem chordQ_left (xs ys : List Rat) (a b : Nat) : chordQ xs ys a b a = atQ ys a := by
  simp [chordQ]

theorem chordQ_right {xs : List Rat} (ys : List Rat) {a b : Nat} (h : atQ xs a ≠ atQ xs b) :
    chordQ xs ys a b b = atQ ys b := by
  unfold chordQ
  rw [mul_div_cancel_right₀ _ (sub_ne_zero.2 h.symm), add_sub_cancel]

/-- over strictly increasing abscissae the two ends of every segment have different abscissae: all
that the chords below need of `xs` -/
theorem atQ_ne_of_pairwise {xs : List Rat} {red : List Nat} {n : Nat} (hxl : xs.length = n)
    (hx : xs.Pairwise (· < ·)) (hp : red.Pairwise (· < ·)) (hl : red.getLast? = some (n - 1)) :
    ∀ p ∈ pairsOf red, atQ xs p.1 ≠ atQ xs p.2 := fun _ h =>
  ne_of_lt (getD_rel_of_pairwise hx (pairsOf_bounds hp hl h).1 (hxl ▸ (pairsOf_bounds hp hl h).2))

/-- **C15S (breakpoints).** At every breakpoint the interpolant returns the curve's own
ordinate: breakpoints contribute zero residual, whatever the metric.  (No hypothesis on `xs`.) -/
theorem interp_breakpoint (xs ys : List Rat) (red : List Nat) (hp : red.Pairwise (· < ·))
    (b : Nat) (hb : b ∈ red) : interpQ xs ys red b = atQ ys b := by
  fun_induction interpQ xs ys red b with
  | case1 => exact (List.not_mem_nil hb).elim
  | case2 a i => rw [List.mem_singleton.1 hb]
  | case3 a b' t i h => rw [Nat.le_antisymm h (head_le_of_pairwise hp i hb)]
  | case4 a b' t i h1 h2 =>
    -- no entry of the list lies strictly between `a` and `b'`
    have hb' := (List.mem_cons.1 hb).resolve_left fun e => h1 e.le
    exact absurd h2 (Nat.not_lt.2 (head_le_of_pairwise hp.of_cons i hb'))
  | case5 a b' t i h1 _ ih => exact ih hp.of_cons ((List.mem_cons.1 hb).resolve_left fun e => h1 e.le)

theorem interp_inside (xs ys : List Rat) (red : List Nat) (hp : red.Pairwise (· < ·))
    (p : Nat × Nat) (h : p ∈ pairsOf red) (i : Nat) (h1 : p.1 < i) (h2 : i < p.2) :
    interpQ xs ys red i = chordQ xs ys p.1 p.2 i := by
  fun_induction interpQ xs ys red i with
  | case1 => exact (List.not_mem_nil h).elim
  | case2 => exact (List.not_mem_nil h).elim
  | case3 a b t i hi =>
    exact absurd (lt_of_le_of_lt (head_le_of_pairwise hp p.1 (pairsOf_mem h).1) h1) (Nat.not_lt.2 hi)
  | case4 a b t i _ hi =>
    rcases List.mem_cons.1 h with rfl | h
    · rfl
    · exact absurd hi (Nat.not_lt.2 (le_trans (head_le_of_pairwise hp.of_cons p.1 (pairsOf_mem h).1) h1.le))
  | case5 a b t i _ hi ih =>
    rcases List.mem_cons.1 h with rfl | h
    · exact absurd h2 hi
    · exact ih hp.of_cons h h1 h2

theorem interp_on_segment (xs ys : List Rat) {red : List Nat} (hp : red.Pairwise (· < ·))
    {p : Nat × Nat} (h : p ∈ pairsOf red) (hx : atQ xs p.1 ≠ atQ xs p.2)
    {i : Nat} (h1 : p.1 ≤ i) (h2 : i ≤ p.2) :
    interpQ xs ys red i = chordQ xs ys p.1 p.2 i := by
  rcases Nat.eq_or_lt_of_le h1 with e | h1'
  · rw [← e, interp_breakpoint xs ys red hp _ (pairsOf_mem h).1, chordQ_left]
  · rcases Nat.eq_or_lt_of_le h2 with e | h2'
    · rw [e, interp_breakpoint xs ys red hp _ (pairsOf_mem h).2, chordQ_right ys hx]
    · exact interp_inside xs ys red hp p h i h1' h2'

/-- `linear_fit` + `linear_transform` on the slice `points[l:r+1]`, listed by index -/
theorem segLine_eq_chord (xs ys : List Rat) {l r : Nat} (hlr : l ≤ r) (hrx : r < xs.length)
    (hry : r < ys.length) (hne : atQ xs l ≠ atQ xs r) :
    lineQ ((xs.drop l).take (r - l + 1))
        (fitQ ((xs.drop l).take (r - l + 1)) ((ys.drop l).take (r - l + 1)))
      = (List.range' l (r - l + 1)).map (chordQ xs ys l r) := by
  obtain ⟨k, rfl⟩ := Nat.exists_eq_add_of_le hlr
  rw [Nat.add_sub_cancel_left, take_drop_eq_map xs l _ hrx, take_drop_eq_map ys l _ hry]
  have hh (L : List Rat) : ((List.range' l (k + 1)).map (atQ L)).head?.getD 0 = atQ L l := by
    rw [List.head?_map, List.head?_range', if_neg (Nat.succ_ne_zero _)]
    rfl
  have hg (L : List Rat) : ((List.range' l (k + 1)).map (atQ L)).getLast?.getD 0 = atQ L (l + k) := by
    rw [List.getLast?_map, List.getLast?_range', if_neg (Nat.succ_ne_zero _), Nat.add_succ_sub_one]
    rfl
  rw [lineQ_fitQ _ (by rw [hh, hg]; exact hne), List.map_map, hh, hg, hh, hg]
  -- `chordQ xs ys l (l + k)` is the chord formula of `lineQ_fitQ` after `atQ xs`
  rfl

/-- **C15S (a).** For strictly increasing abscissae, the model's end-point line of the segment
`(l, r)` of the breakpoint list, evaluated at the point number `i` of the curve (`l ≤ i ≤ r`,
position `i - l` of the slice), is the value of the interpolant at `x_i`: what
`linear_fit` + `linear_transform` compute on `points[l:r+1]` is `np.interp` restricted to it. -/
theorem segLine_eq_interp (xs ys : List Rat) (red : List Nat) (n : Nat)
    (hxl : xs.length = n) (hyl : ys.length = n) (hx : xs.Pairwise (· < ·))
    (hp : red.Pairwise (· < ·)) (p : Nat × Nat) (h : p ∈ pairsOf red) (hr : p.2 < n)
    (i : Nat) (h1 : p.1 ≤ i) (h2 : i ≤ p.2) :
    (lineQ ((xs.drop p.1).take (p.2 - p.1 + 1))
        (fitQ ((xs.drop p.1).take (p.2 - p.1 + 1)) ((ys.drop p.1).take (p.2 - p.1 + 1))))[i - p.1]?
      = some (interpQ xs ys red i) := by
  have hlt := pairsOf_lt hp h
  have hne : atQ xs p.1 ≠ atQ xs p.2 := ne_of_lt (getD_rel_of_pairwise hx hlt (hxl ▸ hr))
  rw [segLine_eq_chord xs ys (le_of_lt hlt) (hxl ▸ hr) (hyl ▸ hr) hne,
    List.getElem?_map, List.getElem?_range' (Nat.lt_succ_of_le (Nat.sub_le_sub_right h2 _)),
    interp_on_segment xs ys hp h hne h1 h2, one_mul, Nat.add_sub_cancel' h1]
  rfl

/-- sum of `g` over the closed index range `l … r` -/
def closedSum (g : Nat → Rat) (l r : Nat) : Rat := ((List.range' l (r - l + 1)).map g).sum
/-- sum of `g` over the half-open index range `l+1 … r` -/
def openSum (g : Nat → Rat) (l r : Nat) : Rat := ((List.range' (l + 1) (r - l)).map g).sum

/-- `points[l:r+1]` = the left end point followed by `points[l+1:r+1]` -/
theorem closedSum_eq (g : Nat → Rat) (l r : Nat) : closedSum g l r = g l + openSum g l r := by
  unfold closedSum openSum
  rw [List.range'_succ]; rfl

theorem openSum_append (g : Nat → Rat) (a b m : Nat) (hab : a ≤ b) (hbm : b ≤ m) :
    openSum g a b + openSum g b m = openSum g a m := by
  obtain ⟨d, rfl⟩ := Nat.exists_eq_add_of_le hab
  obtain ⟨e, rfl⟩ := Nat.exists_eq_add_of_le hbm
  unfold openSum
  rw [← List.sum_append, ← List.map_append, Nat.add_sub_cancel_left, Nat.add_sub_cancel_left,
    Nat.add_assoc a d e, Nat.add_sub_cancel_left, Nat.add_right_comm a d 1, List.range'_append_1]

/-- without their left end points the segments of `reduced` tile `(first, last]` exactly once -/
theorem openSum_telescope (g : Nat → Rat) (rest : List Nat) (a m : Nat)
    (hp : (a :: rest).Pairwise (· < ·)) (hl : (a :: rest).getLast? = some m) :
    ((pairsOf (a :: rest)).map fun p => openSum g p.1 p.2).sum = openSum g a m := by
  induction rest generalizing a with
  | nil =>
    obtain rfl : a = m := Option.some.inj hl
    rw [openSum, Nat.sub_self]
    rfl
  | cons b t ih =>
    rw [List.getLast?_cons_cons] at hl
    have hab : a < b := List.rel_of_pairwise_cons hp List.mem_cons_self
    have hbm : b ≤ m := le_getLast_of_pairwise hp.of_cons hl b List.mem_cons_self
    simp only [pairsOf, List.map_cons, List.sum_cons, ih b hp.of_cons hl]
    exact openSum_append g a b m (le_of_lt hab) hbm

theorem sum_range_eq_openSum (g : Nat → Rat) (m : Nat) :
    ((List.range (m + 1)).map g).sum = g 0 + openSum g 0 m := by
  rw [← closedSum_eq, List.range_eq_range']
  rfl

theorem pairsOf_map_fst (g : Nat → Rat) : ∀ L : List Nat,
    (pairsOf L).map (fun p => g p.1) = L.dropLast.map g
  | [] => rfl
  | [_] => rfl
  | a :: b :: t => by
    simp only [pairsOf, List.map_cons, List.dropLast_cons_cons, pairsOf_map_fst g (b :: t)]

/-- **C15S (double counting).** Summing any per-point quantity `g` segment by segment (both end
points of every segment included, as `compute_global_cost` does with `points[l:r+1]`) gives the
sum over all points plus once more every interior breakpoint: an interior breakpoint is counted
once per adjoining segment. -/
theorem sum_segments_double_count (g : Nat → Rat) (red : List Nat) (n : Nat)
    (hp : red.Pairwise (· < ·)) (h0 : red.head? = some 0) (hl : red.getLast? = some (n - 1))
    (h2 : 2 ≤ red.length) :
    ((pairsOf red).map fun p => closedSum g p.1 p.2).sum
      = ((List.range n).map g).sum + ((innerOf red).map g).sum := by
  obtain ⟨_ | ⟨b, t⟩, rfl⟩ := List.head?_eq_some_iff.1 h0
  · exact absurd h2 (by decide)
  have h1 : 0 < b := List.rel_of_pairwise_cons hp List.mem_cons_self
  have h3 := le_getLast_of_pairwise hp hl b (List.mem_cons_of_mem _ List.mem_cons_self)
  obtain ⟨m, rfl⟩ : ∃ m, n = m + 1 :=
    ⟨n - 1, (Nat.sub_add_cancel (Nat.lt_of_sub_pos (lt_of_lt_of_le h1 h3)).le).symm⟩
  simp only [closedSum_eq, List.sum_map_add]
  rw [pairsOf_map_fst g, openSum_telescope g (b :: t) 0 m hp hl, sum_range_eq_openSum]
  simp only [innerOf, List.drop_one, List.tail_cons, List.dropLast_cons_cons, List.map_cons,
    List.sum_cons]
  rw [add_right_comm]

/-- the same count with `g = 1`: the number of point evaluations summed by `compute_global_cost`
is the model's divisor `len(points) + len(segment_errors) - 1` -/
theorem evaluations_eq_divisor (red : List Nat) (n : Nat)
    (hp : red.Pairwise (· < ·)) (h0 : red.head? = some 0) (hl : red.getLast? = some (n - 1))
    (h2 : 2 ≤ red.length) :
    ((pairsOf red).map fun p => (((p.2 - p.1 + 1 : Nat)) : Rat)).sum
      = ((n + (red.length - 1) - 1 : Nat) : Rat) := by
  have h := sum_segments_double_count (fun _ => 1) red n hp h0 hl h2
  simp only [closedSum, List.map_const', List.sum_replicate, nsmul_eq_mul, mul_one,
    List.length_range', List.length_range] at h
  have hlen : (innerOf red).length = red.length - 1 - 1 := by
    simp only [innerOf, List.length_dropLast, List.length_drop]
  rw [h, hlen, ← Nat.cast_add, Nat.add_sub_assoc (Nat.le_sub_one_of_lt h2)]

/-- residual term of the point number `i` against the interpolant -/
def resQ (kind : MKind) (xs ys : List Rat) (red : List Nat) (i : Nat) : Rat :=
  termQ kind (atQ ys i) (interpQ xs ys red i)

/-- **C15S (zero residual on breakpoints).** Every breakpoint contributes zero to every metric. -/
theorem resQ_breakpoint (kind : MKind) (xs ys : List Rat) {red : List Nat}
    (hp : red.Pairwise (· < ·)) {b : Nat} (hb : b ∈ red) : resQ kind xs ys red b = 0 := by
  unfold resQ
  rw [interp_breakpoint xs ys red hp b hb, termQ_self]

theorem zipWith_interpL_length (f : Rat → Rat → Rat) (xs ys : List Rat) (red : List Nat) :
    (List.zipWith f ys (interpL xs ys red)).length = ys.length := by
  simp [interpL]

theorem partialQ_interp_eq_sum (kind : MKind) (xs ys : List Rat) (red : List Nat) :
    partialQ kind ys (interpL xs ys red)
      = ((List.range ys.length).map (resQ kind xs ys red)).sum := by
  rw [partialQ_eq_term, interpL, zipWith_map_range]
  rfl

theorem closedSum_congr {g g' : Nat → Rat} {l r : Nat} (hlr : l ≤ r)
    (h : ∀ i, l ≤ i → i ≤ r → g i = g' i) : closedSum g l r = closedSum g' l r :=
  congrArg List.sum (List.map_congr_left fun i hi =>
    h i (List.mem_range'_1.1 hi).1 (by have := (List.mem_range'_1.1 hi).2; omega))

theorem segErrQ_eq_chord_sum (kind : MKind) (xs ys : List Rat) {l r : Nat} (hlr : l ≤ r)
    (hrx : r < xs.length) (hry : r < ys.length) (hne : atQ xs l ≠ atQ xs r) :
    segErrQ kind xs ys l r
      = closedSum (fun i => termQ kind (atQ ys i) (chordQ xs ys l r i)) l r := by
  unfold segErrQ closedSum
  simp only
  rw [segLine_eq_chord xs ys hlr hrx hry hne, partialQ_eq_term,
    take_drop_eq_map ys l _ (by omega), List.zipWith_map, List.zipWith_self]

section
variable {xs ys : List Rat} {red : List Nat} {n : Nat}

/-- the left end of a segment is a breakpoint and adds nothing: the residuals are summed over `l+1 … r` -/
theorem segErrQ_eq_openSum (kind : MKind) (hxl : xs.length = n) (hyl : ys.length = n)
    (hne : ∀ p ∈ pairsOf red, atQ xs p.1 ≠ atQ xs p.2) (hp : red.Pairwise (· < ·))
    (hl : red.getLast? = some (n - 1)) {p : Nat × Nat} (h : p ∈ pairsOf red) :
    segErrQ kind xs ys p.1 p.2 = openSum (resQ kind xs ys red) p.1 p.2 := by
  obtain ⟨hlt, hr⟩ := pairsOf_bounds hp hl h
  rw [segErrQ_eq_chord_sum kind xs ys (le_of_lt hlt) (hxl ▸ hr) (hyl ▸ hr) (hne p h),
    ← closedSum_congr (g := resQ kind xs ys red) (le_of_lt hlt) fun i h1 h2 => by
      unfold resQ; rw [interp_on_segment xs ys hp h (hne p h) h1 h2],
    closedSum_eq, resQ_breakpoint kind xs ys hp (pairsOf_mem h).1, zero_add]

/-- the `len(pt) <= 2` shortcut of `compute_global_cost` changes nothing: a two-point segment has zero
error anyway, the one point of `(l, l+1]` being a breakpoint -/
theorem segErrG_segErrQ (kind : MKind) (hxl : xs.length = n) (hyl : ys.length = n)
    (hne : ∀ p ∈ pairsOf red, atQ xs p.1 ≠ atQ xs p.2) (hp : red.Pairwise (· < ·))
    (hl : red.getLast? = some (n - 1)) {p : Nat × Nat} (h : p ∈ pairsOf red) :
    segErrG (segErrQ kind xs ys) p.1 p.2 = segErrQ kind xs ys p.1 p.2 := by
  unfold segErrG
  split
  · rename_i hle
    have hlt := (pairsOf_bounds hp hl h).1
    have e : p.2 - p.1 = 1 := Nat.le_antisymm (Nat.le_of_succ_le_succ hle) (Nat.sub_pos_of_lt hlt)
    have e2 : p.1 + 1 = p.2 := by rw [← e, Nat.add_sub_cancel' hlt.le]
    rw [segErrQ_eq_openSum kind hxl hyl hne hp hl h, openSum, e, List.range'_one, List.map_singleton,
      List.sum_singleton, e2, resQ_breakpoint kind xs ys hp (pairsOf_mem h).2]
  · rfl

/-- the half-open segments tile `(0, n-1]`, and the point `0` is a breakpoint -/
theorem sum_openSum_eq_interp (kind : MKind) (xs : List Rat) (hyl : ys.length = n)
    (hp : red.Pairwise (· < ·)) (h0 : red.head? = some 0) (hl : red.getLast? = some (n - 1)) :
    ((pairsOf red).map fun p => openSum (resQ kind xs ys red) p.1 p.2).sum
      = partialQ kind ys (interpL xs ys red) := by
  obtain ⟨t, rfl⟩ := List.head?_eq_some_iff.1 h0
  rw [openSum_telescope _ t 0 (n - 1) hp hl, partialQ_interp_eq_sum, hyl]
  cases n with
  | zero => rfl
  | succ m => rw [sum_range_eq_openSum, resQ_breakpoint kind xs ys hp (by simp), zero_add]; rfl

/-- **C15S (sum of segment errors).** For a strictly increasing breakpoint list from `0` to `n − 1`
whose segments have ends with different abscissae, the sum of the model's per-segment errors is the
metric sum of the whole curve against `np.interp(x, x[red], y[red])`. -/
theorem sum_segErrQ_eq_interp (kind : MKind) (hxl : xs.length = n) (hyl : ys.length = n)
    (hne : ∀ p ∈ pairsOf red, atQ xs p.1 ≠ atQ xs p.2) (hp : red.Pairwise (· < ·))
    (h0 : red.head? = some 0) (hl : red.getLast? = some (n - 1)) :
    ((pairsOf red).map fun p => segErrQ kind xs ys p.1 p.2).sum
      = partialQ kind ys (interpL xs ys red) := by
  rw [← sum_openSum_eq_interp kind xs hyl hp h0 hl]
  exact congrArg List.sum (List.map_congr_left fun _ h =>
    segErrQ_eq_openSum kind hxl hyl hne hp hl h)

theorem sumErr_eq_interp (kind : MKind) (hxl : xs.length = n) (hyl : ys.length = n)
    (hne : ∀ p ∈ pairsOf red, atQ xs p.1 ≠ atQ xs p.2) (hp : red.Pairwise (· < ·))
    (h0 : red.head? = some 0) (hl : red.getLast? = some (n - 1)) :
    sumErr (segErrQ kind xs ys) red = partialQ kind ys (interpL xs ys red) := by
  rw [← sum_segErrQ_eq_interp kind hxl hyl hne hp h0 hl]
  exact congrArg List.sum (List.map_congr_left fun _ h => segErrG_segErrQ kind hxl hyl hne hp hl h)

end

/-- **C15S (b) — global RMSE.** `compute_global_rmse(points, reduced)²` is the mean squared
residual of ALL `n` points against the piecewise-linear interpolant through the breakpoints:
`Σ_i (y_i − interp_i)² / n`.  Interior breakpoints are summed twice by the code (once per adjoining
segment) but their residual is zero, and the divisor is `n` (not `n + #segments − 1`), so the value
is exactly the RMSE² against `np.interp`. -/
theorem grmseSq_eq_interp (xs ys : List Rat) (red : List Nat) (n : Nat)
    (hxl : xs.length = n) (hyl : ys.length = n) (hx : xs.Pairwise (· < ·))
    (hp : red.Pairwise (· < ·)) (h0 : red.head? = some 0) (hl : red.getLast? = some (n - 1)) :
    grmseSq (segErrQ .r2 xs ys) n red
      = ((List.range n).map fun i =>
          (atQ ys i - interpQ xs ys red i) * (atQ ys i - interpQ xs ys red i)).sum / (n : Rat) := by
  unfold grmseSq
  rw [sum_segErrQ_eq_interp .r2 hxl hyl (atQ_ne_of_pairwise hxl hx hp hl) hp h0 hl,
    partialQ_interp_eq_sum, hyl]
  rfl

/-- **C15S (b′).** The same in the vocabulary of `Metrics.lean`: global RMSE² = `mseQ` (= RMSE²)
of the curve's ordinates against the sampled interpolant. -/
theorem grmseSq_eq_mse_interp (xs ys : List Rat) (red : List Nat) (n : Nat)
    (hxl : xs.length = n) (hyl : ys.length = n) (hx : xs.Pairwise (· < ·))
    (hp : red.Pairwise (· < ·)) (h0 : red.head? = some 0) (hl : red.getLast? = some (n - 1)) :
    grmseSq (segErrQ .r2 xs ys) n red = mseQ ys (interpL xs ys red) := by
  unfold grmseSq
  rw [sum_segErrQ_eq_interp .r2 hxl hyl (atQ_ne_of_pairwise hxl hx hp hl) hp h0 hl, partialQ_eq_term,
    mseQ_eq_term]
  unfold meanQ
  rw [zipWith_interpL_length, hyl]

/-- **C15S (c) — global cost, non-R² metrics.** `compute_global_cost` (squared for the rooted
metrics) is the metric's sum over the whole curve against the interpolant, divided by
`n + #segments − 1` — NOT by `n`: the divisor counts every interior breakpoint once per adjoining
segment (`evaluations_eq_divisor`) although those extra evaluations add zero residual.  Hence
`cost = metric_against_interp · n / (n + #segments − 1)` for the mean-type metrics.  (For `rmsle`,
whose term this layer does not have, both sides are `0`.) -/
theorem gcost_eq_interp {kind : MKind} (hk : kind ≠ .r2) (tss : Rat) {xs ys : List Rat}
    {red : List Nat} {n : Nat}
    (hxl : xs.length = n) (hyl : ys.length = n) (hx : xs.Pairwise (· < ·))
    (hp : red.Pairwise (· < ·)) (h0 : red.head? = some 0) (hl : red.getLast? = some (n - 1)) :
    gcostQ kind n tss (segErrQ kind xs ys) red
      = partialQ kind ys (interpL xs ys red) / ((n + (red.length - 1) - 1 : Nat) : Rat) := by
  rw [gcost_exact_divisor kind n tss xs ys red hk,
    sumErr_eq_interp kind hxl hyl (atQ_ne_of_pairwise hxl hx hp hl) hp h0 hl]

/-- **C15S (c) — global cost, R².** With any `tss`: `max 0 (1 − RSS_interp / tss)` (or
`1 − RSS_interp` when `tss = 0`), `RSS_interp` being the residual sum of squares of the whole
curve against the interpolant. -/
theorem gcost_r2_eq_interp (tss : Rat) {xs ys : List Rat} {red : List Nat} {n : Nat}
    (hxl : xs.length = n) (hyl : ys.length = n) (hx : xs.Pairwise (· < ·))
    (hp : red.Pairwise (· < ·)) (h0 : red.head? = some 0) (hl : red.getLast? = some (n - 1)) :
    gcostQ .r2 n tss (segErrQ .r2 xs ys) red
      = (let c := if tss = 0 then 1 - rssQ ys (interpL xs ys red)
                  else 1 - rssQ ys (interpL xs ys red) / tss
         if c < 0 then 0 else c) := by
  rw [gcostQ_eq_costOfSum, sumErr_eq_interp .r2 hxl hyl (atQ_ne_of_pairwise hxl hx hp hl) hp h0 hl,
    costOfSum_r2, partialQ_r2]

/-- **C15S (c′) — global cost, R², with the curve's own total sum of squares.** The global R² cost
is the classic `metrics.r2` of the ordinates against the interpolant, clipped at 0. -/
theorem gcost_r2_eq_r2_interp (xs ys : List Rat) (red : List Nat) (n : Nat)
    (hxl : xs.length = n) (hyl : ys.length = n) (hx : xs.Pairwise (· < ·))
    (hp : red.Pairwise (· < ·)) (h0 : red.head? = some 0) (hl : red.getLast? = some (n - 1)) :
    gcostQ .r2 n (tssQ ys) (segErrQ .r2 xs ys) red
      = if r2Q ys (interpL xs ys red) < 0 then 0 else r2Q ys (interpL xs ys red) := by
  rw [gcost_r2_eq_interp (tssQ ys) hxl hyl hx hp h0 hl]
  unfold r2Q
  rfl

theorem gcost_eq_mean_scaled {kind : MKind} (hk : kind ≠ .r2) (tss : Rat) {xs ys : List Rat}
    {red : List Nat} {n : Nat}
    (hxl : xs.length = n) (hyl : ys.length = n) (hx : xs.Pairwise (· < ·))
    (hp : red.Pairwise (· < ·)) (h0 : red.head? = some 0) (hl : red.getLast? = some (n - 1)) :
    gcostQ kind n tss (segErrQ kind xs ys) red
      = meanQ (List.zipWith (termQ kind) ys (interpL xs ys red)) * (n : Rat)
          / ((n + (red.length - 1) - 1 : Nat) : Rat) := by
  rw [gcost_eq_interp hk tss hxl hyl hx hp h0 hl, partialQ_eq_term, ← meanQ_mul_length,
    zipWith_interpL_length, hyl]

/-- **C15S (c″) — the global cost is NOT the plain metric against the interpolant.** For the
mean-type metrics the global cost is the whole-curve metric (`metrics.smape` / `rpd` / `rmspe²`
of `y` against `np.interp`) rescaled by `n / (n + #segments − 1)`: same numerator, larger divisor. -/
theorem gcost_eq_metric_scaled (tss : Rat) (xs ys : List Rat) (red : List Nat) (n : Nat)
    (hxl : xs.length = n) (hyl : ys.length = n) (hx : xs.Pairwise (· < ·))
    (hp : red.Pairwise (· < ·)) (h0 : red.head? = some 0) (hl : red.getLast? = some (n - 1)) :
    gcostQ .smape n tss (segErrQ .smape xs ys) red
        = smapeQ ys (interpL xs ys red) * (n : Rat) / ((n + (red.length - 1) - 1 : Nat) : Rat)
    ∧ gcostQ .rpd n tss (segErrQ .rpd xs ys) red
        = rpdQ ys (interpL xs ys red) * (n : Rat) / ((n + (red.length - 1) - 1 : Nat) : Rat)
    ∧ gcostQ .rmspe n tss (segErrQ .rmspe xs ys) red
        = rmspeSq ys (interpL xs ys red) * (n : Rat) / ((n + (red.length - 1) - 1 : Nat) : Rat) := by
  rw [smapeQ_eq_term, rpdQ_eq_term, rmspeSq_eq_term]
  exact ⟨gcost_eq_mean_scaled (by decide) tss hxl hyl hx hp h0 hl,
    gcost_eq_mean_scaled (by decide) tss hxl hyl hx hp h0 hl,
    gcost_eq_mean_scaled (by decide) tss hxl hyl hx hp h0 hl⟩

/-! A 7-point curve with NON-uniform abscissae and the breakpoints `[0, 2, 3, 6]` (one 3-point
segment, one 2-point segment, one 4-point segment). -/

/- the hypotheses of all the theorems above hold -/
example : ([0, 1, 2, 4, 5, 7, 8] : List Rat).length = 7 ∧ ([1, 3, 2, 5, 4, 4, 6] : List Rat).length = 7
    ∧ ([0, 1, 2, 4, 5, 7, 8] : List Rat).Pairwise (· < ·)
    ∧ ([0, 2, 3, 6] : List Nat).Pairwise (· < ·)
    ∧ ([0, 2, 3, 6] : List Nat).head? = some 0 ∧ ([0, 2, 3, 6] : List Nat).getLast? = some (7 - 1)
    ∧ 2 ≤ ([0, 2, 3, 6] : List Nat).length := by
  decide +kernel
/- the interpolant, sampled: exact on the breakpoints 0, 2, 3, 6, off the curve elsewhere -/
example : interpL [0, 1, 2, 4, 5, 7, 8] [1, 3, 2, 5, 4, 4, 6] [0, 2, 3, 6]
    = [1, 3 / 2, 2, 5, 21 / 4, 23 / 4, 6] := by decide +kernel
/- both sides of `grmseSq_eq_mse_interp`, computed independently -/
example : grmseSq (segErrQ .r2 [0, 1, 2, 4, 5, 7, 8] [1, 3, 2, 5, 4, 4, 6]) 7 [0, 2, 3, 6] = 55 / 56
    ∧ mseQ [1, 3, 2, 5, 4, 4, 6] (interpL [0, 1, 2, 4, 5, 7, 8] [1, 3, 2, 5, 4, 4, 6] [0, 2, 3, 6])
      = 55 / 56 := by decide +kernel
/- both sides of `gcost_r2_eq_r2_interp` (clip inactive) -/
example : gcostQ .r2 7 (tssQ [1, 3, 2, 5, 4, 4, 6])
      (segErrQ .r2 [0, 1, 2, 4, 5, 7, 8] [1, 3, 2, 5, 4, 4, 6]) [0, 2, 3, 6] = 607 / 992
    ∧ r2Q [1, 3, 2, 5, 4, 4, 6] (interpL [0, 1, 2, 4, 5, 7, 8] [1, 3, 2, 5, 4, 4, 6] [0, 2, 3, 6])
      = 607 / 992 := by decide +kernel
/- the divisor: 3 + 2 + 4 = 9 evaluations = 7 + 3 − 1, and the SMAPE global cost is 7/9 of the
SMAPE against the interpolant — the global cost is NOT the plain metric against the interpolant -/
example : (3 + 2 + 4 : Nat) = 7 + ([0, 2, 3, 6].length - 1) - 1
    ∧ gcostQ .smape 7 0 (segErrQ .smape [0, 1, 2, 4, 5, 7, 8] [1, 3, 2, 5, 4, 4, 6]) [0, 2, 3, 6]
      = smapeQ [1, 3, 2, 5, 4, 4, 6]
          (interpL [0, 1, 2, 4, 5, 7, 8] [1, 3, 2, 5, 4, 4, 6] [0, 2, 3, 6]) * 7 / 9
    ∧ gcostQ .smape 7 0 (segErrQ .smape [0, 1, 2, 4, 5, 7, 8] [1, 3, 2, 5, 4, 4, 6]) [0, 2, 3, 6]
      ≠ smapeQ [1, 3, 2, 5, 4, 4, 6]
          (interpL [0, 1, 2, 4, 5, 7, 8] [1, 3, 2, 5, 4, 4, 6] [0, 2, 3, 6]) := by
  decide +kernel
/- strict monotonicity of the abscissae is not idle: with a repeated abscissa at the two ends of a
segment the end-point fit degenerates to `(0, 0)` and the model's RSS is no longer the RSS against
the interpolant (which still passes through the breakpoints) -/
example : grmseSq (segErrQ .r2 [0, 1, 0] [1, 3, 2]) 3 [0, 2] = 14 / 3
    ∧ interpL [0, 1, 0] [1, 3, 2] [0, 2] = [1, 1, 2]
    ∧ mseQ [1, 3, 2] (interpL [0, 1, 0] [1, 3, 2] [0, 2]) = 4 / 3 := by decide +kernel

end Knee
