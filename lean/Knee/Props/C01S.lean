import Knee.Props.C01
import Knee.Props.C06B
/-!
# C01S — linear step bounds for ALL simplifiers, and the removed-table clause

C01: "each simplifier returns after a number of refinement steps bounded linearly in n".
`rdp_steps_linear` (C01.lean) covers threshold RDP.  The four stack-ordered simplifiers are counted by
`fixedSteps` / `grdpSteps` (`Lemmas/Refine.lean`) and `mpSteps` / `minPointSteps` (below); each count is
linear in `n`, and every step adds exactly one retained index.
Oracle-parametric (Layer S): for EVERY distance oracle `dst` returning one distance per point of the
range (`hd`), EVERY ordering-score oracle `key` and EVERY acceptance oracle `accept` / `acceptAt`.
A "step" is one execution of the body of the `while` loop of `_rdp_fixed` / `_grdp`: one `refineStep`.
-/
namespace Knee

/-- `_rdp_fixed`'s loop instrumented with a counter `c` that is incremented in the loop body -/
def fixedLoopC (dst : Nat → Nat → List Rat) (key : Nat → Nat → Nat → Rat × Rat) :
    Nat → RState → Nat → RState × Nat
  | 0, s, c => (s, c)
  | k + 1, s, c => if s.stack.isEmpty then (s, c) else fixedLoopC dst key k (refineStep dst key s) (c + 1)

def grdpLoopC (accept : List Nat → Bool) (dst : Nat → Nat → List Rat) (key : Nat → Nat → Nat → Rat × Rat) :
    Nat → RState → Nat → RState × Nat
  | 0, s, c => (s, c)
  | f + 1, s, c =>
    if accept s.reduced || s.stack.isEmpty then (s, c)
    else grdpLoopC accept dst key f (refineStep dst key s) (c + 1)

/-- total number of loop-body executions of `mp_grdp`: the global phase, plus (only when the global
result has fewer than `m` points) the continuation of `_rdp_fixed` on the *same* state -/
def mpSteps (accept : List Nat → Bool) (dst : Nat → Nat → List Rat) (key : Nat → Nat → Nat → Rat × Rat)
    (n m : Nat) : Nat :=
  let s := grdpLoop accept dst key n (rinit n)
  grdpSteps accept dst key n (rinit n) +
    (if s.reduced.length ≥ m then 0 else fixedSteps dst key (m - s.reduced.length) s)

/-- total number of loop-body executions of `min_point_rdp`: every threshold that is tried costs a
full `grdp` run from scratch; if none yields `m` points, `rdp_fixed(m)` is run from scratch -/
def minPointSteps (acceptAt : Rat → List Nat → Bool) (dst : Nat → Nat → List Rat)
    (key : Nat → Nat → Nat → Rat × Rat) (n m : Nat) : List Rat → Nat
  | [] => fixedSteps dst key (m - 2) (rinit n)
  | t :: ts =>
    grdpSteps (acceptAt t) dst key n (rinit n) +
      (if (grdp (acceptAt t) dst key n).length ≥ m then 0 else minPointSteps acceptAt dst key n m ts)

/-- the part of `minPointSteps` spent in `grdp` runs whose result was rejected (fewer than `m` points) -/
def minPointWasted (acceptAt : Rat → List Nat → Bool) (dst : Nat → Nat → List Rat)
    (key : Nat → Nat → Nat → Rat × Rat) (n m : Nat) : List Rat → Nat
  | [] => 0
  | t :: ts =>
    if (grdp (acceptAt t) dst key n).length ≥ m then 0
    else grdpSteps (acceptAt t) dst key n (rinit n) + minPointWasted acceptAt dst key n m ts

/-- The instrumented `_grdp` loop computes the same state as the model's `grdpLoop`, and its counter
has advanced by exactly `grdpSteps`. -/
theorem grdpLoopC_eq (accept : List Nat → Bool) (dst : Nat → Nat → List Rat)
    (key : Nat → Nat → Nat → Rat × Rat) (f : Nat) (s : RState) (c : Nat) :
    grdpLoopC accept dst key f s c = (grdpLoop accept dst key f s, c + grdpSteps accept dst key f s) := by
  induction f generalizing s c with
  | zero => rfl
  | succ f ih =>
    simp only [grdpLoopC, grdpLoop, grdpSteps]
    split
    · rfl
    · rw [ih, Nat.add_assoc, Nat.add_comm 1]

/-- The instrumented `_rdp_fixed` loop computes the same state as the model's `fixedLoop`, and its
counter has advanced by exactly `fixedSteps`: counting does not change what the Python loop computes,
and `fixedSteps` is the number of times the loop body ran. -/
theorem fixedLoopC_eq (dst : Nat → Nat → List Rat) (key : Nat → Nat → Nat → Rat × Rat) (k : Nat)
    (s : RState) (c : Nat) :
    fixedLoopC dst key k s c = (fixedLoop dst key k s, c + fixedSteps dst key k s) := by
  induction k generalizing s c with
  | zero => rfl
  | succ k ih =>
    simp only [fixedLoopC, fixedLoop, fixedSteps]
    split
    · rfl
    · rw [ih, Nat.add_assoc, Nat.add_comm 1]

/-- The state `_grdp` returns is the initial state after exactly `grdpSteps` applications of the loop
body; before each of them the cost was not accepted and the stack was non-empty. -/
theorem grdpLoop_eq_iterate (accept : List Nat → Bool) (dst : Nat → Nat → List Rat)
    (key : Nat → Nat → Nat → Rat × Rat) (f : Nat) (s : RState) :
    grdpLoop accept dst key f s = stepN dst key (grdpSteps accept dst key f s) s ∧
    ∀ j < grdpSteps accept dst key f s,
      accept (stepN dst key j s).reduced = false ∧
      (stepN dst key j s).stack ≠ [] :=
  ⟨grdpLoop_eq_stepN f s, grdpSteps_before f s⟩

/-- The state `_rdp_fixed` returns is the initial state after exactly `fixedSteps` applications of
the loop body, and the stack was non-empty before each of them (every counted step really popped a
segment). -/
theorem fixedLoop_eq_iterate (dst : Nat → Nat → List Rat) (key : Nat → Nat → Nat → Rat × Rat) (k : Nat)
    (s : RState) :
    fixedLoop dst key k s = stepN dst key (fixedSteps dst key k s) s ∧
    ∀ j < fixedSteps dst key k s, (stepN dst key j s).stack ≠ [] := by
  rw [fixedLoop_eq_grdpLoop, fixedSteps_eq_grdpSteps]
  exact ⟨grdpLoop_eq_stepN k s, fun j hj => (grdpSteps_before k s j hj).2⟩

theorem grdpLoop_eq_fixedLoop_steps (accept : List Nat → Bool) (dst : Nat → Nat → List Rat)
    (key : Nat → Nat → Nat → Rat × Rat) (f : Nat) (s : RState) :
    grdpLoop accept dst key f s = fixedLoop dst key (grdpSteps accept dst key f s) s := by
  rw [grdpLoop_eq_stepN, fixedLoop_eq_stepN]

/-- **C01, fixed-size RDP, step bound.** For every distance/ordering oracle and every `k`,
`rdp_fixed(points, k)` executes its loop body exactly `min (k - 2) (n - 2)` times — in particular at
most `k - 2` times and at most `n - 2` times (linear in n, independent of `k` when `k > n`) — and
each execution adds exactly one retained index: the result has `steps + 2` points. -/
theorem fixed_steps_linear (dst : Nat → Nat → List Rat) (key : Nat → Nat → Nat → Rat × Rat) (n k : Nat)
    (hn : 2 ≤ n) (hd : ∀ l r, (dst l r).length = r - l) :
    fixedSteps dst key (k - 2) (rinit n) ≤ min (k - 2) (n - 2) ∧
    fixedSteps dst key (k - 2) (rinit n) = min (k - 2) (n - 2) ∧
    fixedSteps dst key (k - 2) (rinit n) = (rdpFixed dst key n k).length - 2 ∧
    (rdpFixed dst key n k).length = fixedSteps dst key (k - 2) (rinit n) + 2 := by
  have h1 := fixedSteps_eq key hd hn (rinit_inv n hn) (k - 2)
  have h2 := fixedLoop_length key hd hn (rinit_inv n hn) (k - 2)
  rw [show (rinit n).reduced.length = 2 from rfl] at h1 h2
  rw [rdpFixed, h2]
  exact ⟨Nat.le_of_eq h1, h1, (Nat.add_sub_cancel_left ..).symm, Nat.add_comm ..⟩

/-- **C01, global RDP, step bound.** Whatever the global-cost oracle answers, `grdp` executes its loop
body at most `n - 2` times (the fuel `n` of the model is never the reason for stopping, see
`grdp_total_wf`), each execution adds exactly one retained index (the result has `steps + 2`
points), and the result is what `rdp_fixed` returns for `steps + 2` points. -/
theorem grdp_steps_linear (accept : List Nat → Bool) (dst : Nat → Nat → List Rat)
    (key : Nat → Nat → Nat → Rat × Rat) (n : Nat) (hn : 2 ≤ n) (hd : ∀ l r, (dst l r).length = r - l) :
    grdpSteps accept dst key n (rinit n) ≤ n - 2 ∧
    grdpSteps accept dst key n (rinit n) = (grdp accept dst key n).length - 2 ∧
    (grdp accept dst key n).length = grdpSteps accept dst key n (rinit n) + 2 ∧
    grdp accept dst key n = rdpFixed dst key n (grdpSteps accept dst key n (rinit n) + 2) := by
  have hj := grdpSteps_rinit_le accept key hd hn
  have hlen := grdp_length accept key hd hn
  exact ⟨Nat.le_sub_of_add_le hj, by rw [hlen, Nat.add_sub_cancel], hlen, grdp_eq_rdpFixed n⟩

/-- **C01, global RDP, the bound does not depend on the fuel.** With ANY iteration budget `f` the
global loop executes its body at most `n - 2` times: the linear bound is a property of the loop, not
an artefact of the fuel the model passes. -/
theorem grdp_steps_any_fuel (accept : List Nat → Bool) (dst : Nat → Nat → List Rat)
    (key : Nat → Nat → Nat → Rat × Rat) (n f : Nat) (hn : 2 ≤ n) (hd : ∀ l r, (dst l r).length = r - l) :
    grdpSteps accept dst key f (rinit n) ≤ n - 2 :=
  grdpSteps_le accept key hd hn (rinit_inv n hn) f

/-- **C01, min-points variant, step bound.** `mp_grdp(points, t, m)` executes at most `n - 2` loop
bodies IN TOTAL (global phase plus the `_rdp_fixed` continuation on the same stack), for every
oracle and every `m`; each execution adds exactly one retained index, so the result has
`steps + 2` points. -/
theorem mp_steps_linear (accept : List Nat → Bool) (dst : Nat → Nat → List Rat)
    (key : Nat → Nat → Nat → Rat × Rat) (n m : Nat) (hn : 2 ≤ n) (hd : ∀ l r, (dst l r).length = r - l) :
    mpSteps accept dst key n m ≤ n - 2 ∧
    mpSteps accept dst key n m = (mpGrdp accept dst key n m).length - 2 ∧
    (mpGrdp accept dst key n m).length = mpSteps accept dst key n m + 2 := by
  have hinv := grdpLoop_inv accept key hd hn (rinit_inv n hn) n
  have hlen := grdpLoop_length accept key hd hn (rinit_inv n hn) n
  have hle := grdpSteps_rinit_le accept key hd hn
  rw [show (rinit n).reduced.length = 2 from rfl] at hlen
  simp only [mpSteps, mpGrdp]
  split
  · omega
  · have hlen' := fixedLoop_length key hd hn hinv (m - (grdpLoop accept dst key n (rinit n)).reduced.length)
    have h2 := grdpSteps_add_le (fun _ => false) key hd hn hinv
      (m - (grdpLoop accept dst key n (rinit n)).reduced.length)
    rw [← fixedSteps_eq_grdpSteps] at h2
    omega

/-- **C01, min-points variant, phases.** The global phase of `mp_grdp` takes `grdpSteps` steps; the
continuation runs only if the global result has fewer than `m` points and then takes exactly
`min m n - #global result` further steps. -/
theorem mp_steps_phases (accept : List Nat → Bool) (dst : Nat → Nat → List Rat)
    (key : Nat → Nat → Nat → Rat × Rat) (n m : Nat) (hn : 2 ≤ n) (hd : ∀ l r, (dst l r).length = r - l) :
    mpSteps accept dst key n m =
      grdpSteps accept dst key n (rinit n) + (min m n - (grdp accept dst key n).length) := by
  simp only [mpSteps, grdp]
  split
  · rename_i h
    rw [Nat.sub_eq_zero_of_le (Nat.le_trans (Nat.min_le_left ..) h)]
  · rw [fixedSteps_eq key hd hn (grdpLoop_inv accept key hd hn (rinit_inv n hn) n), Nat.sub_min_sub_right]

/-- **C01, multi-threshold variant, accounting.** The steps of `min_point_rdp` split into the steps
of the rejected `grdp` runs (`minPointWasted`) and the steps of the run that produced the returned
reduction; for the latter each step adds exactly one retained index (`result.length - 2` steps).
A rejected run has fewer than `m` (and at most `n`) points, hence at most `min (m - 1) n - 2` steps. -/
theorem minpoint_steps_split (acceptAt : Rat → List Nat → Bool) (dst : Nat → Nat → List Rat)
    (key : Nat → Nat → Nat → Rat × Rat) (n m : Nat) (hn : 2 ≤ n) (hd : ∀ l r, (dst l r).length = r - l)
    (ts : List Rat) :
    minPointSteps acceptAt dst key n m ts =
      minPointWasted acceptAt dst key n m ts + ((minPointRdp acceptAt dst key n m ts).length - 2) ∧
    minPointWasted acceptAt dst key n m ts ≤ ts.length * (min (m - 1) n - 2) := by
  induction ts with
  | nil =>
    simp only [minPointSteps, minPointWasted, minPointRdp, List.length_nil]
    exact ⟨by rw [Nat.zero_add]; exact (fixed_steps_linear dst key n m hn hd).2.2.1, Nat.zero_le _⟩
  | cons t ts ih =>
    obtain ⟨hle, _, hlen, _⟩ := grdp_steps_linear (acceptAt t) dst key n hn hd
    simp only [minPointSteps, minPointWasted, minPointRdp, List.length_cons]
    split
    · exact ⟨by rw [hlen, Nat.zero_add, Nat.add_sub_cancel, Nat.add_zero], Nat.zero_le _⟩
    · rename_i hlt
      -- a rejected run has fewer than `m` points, and one index per step
      have : grdpSteps (acceptAt t) dst key n (rinit n) ≤ min (m - 1) n - 2 :=
        Nat.le_sub_of_add_le (Nat.le_min.mpr
          ⟨Nat.le_sub_one_of_lt (hlen ▸ Nat.lt_of_not_ge hlt), Nat.add_le_of_le_sub hn hle⟩)
      rw [Nat.add_mul, Nat.one_mul, Nat.add_comm (ts.length * _), ih.1, Nat.add_assoc]
      exact ⟨rfl, Nat.add_le_add this ih.2⟩

/-- **C01, multi-threshold variant, step bound.** `min_point_rdp(points, ts, m)` tries the thresholds
in order and may fall back to `rdp_fixed`; whatever the oracles answer it executes at most
`(len(ts) + 1) * (n - 2)` loop bodies in total — linear in n for a fixed threshold list. -/
theorem minpoint_steps_linear (acceptAt : Rat → List Nat → Bool) (dst : Nat → Nat → List Rat)
    (key : Nat → Nat → Nat → Rat × Rat) (n m : Nat) (hn : 2 ≤ n) (hd : ∀ l r, (dst l r).length = r - l)
    (ts : List Rat) :
    minPointSteps acceptAt dst key n m ts ≤ (ts.length + 1) * (n - 2) := by
  obtain ⟨h1, h2⟩ := minpoint_steps_split acceptAt dst key n m hn hd ts
  have h3 := (minpoint_wf acceptAt dst key n m hn hd ts).2.2.2
  have h4 := Nat.le_trans h2 (Nat.mul_le_mul_left _ (Nat.sub_le_sub_right (Nat.min_le_right ..) 2))
  rw [h1, Nat.add_mul, Nat.one_mul]
  exact Nat.add_le_add h4 (Nat.sub_le_sub_right (Nat.le.intro h3) 2)

/-- **C01, multi-threshold variant as called by the code.** `min_point_rdp` first sorts the caller's
thresholds in descending order (`t.sort(reverse=True)`, `sortDesc`); the bound is in terms of the
caller's list. -/
theorem minpoint_steps_linear_sorted (acceptAt : Rat → List Nat → Bool) (dst : Nat → Nat → List Rat)
    (key : Nat → Nat → Nat → Rat × Rat) (n m : Nat) (hn : 2 ≤ n) (hd : ∀ l r, (dst l r).length = r - l)
    (ts : List Rat) :
    minPointSteps acceptAt dst key n m (sortDesc ts) ≤ (ts.length + 1) * (n - 2) := by
  have := minpoint_steps_linear acceptAt dst key n m hn hd (sortDesc ts)
  rwa [(sortDesc_perm ts).length_eq] at this

/-! ### the removed table of the stack-ordered simplifiers

`rdp_fixed`, `grdp`, `mp_grdp` and `min_point_rdp` return `reduced, compute_removed_points(reduced)`:
the table is computed by the code itself from the returned index list. -/

/-- the removed-table clause of C01 for a reduction `reduced` of an n-point curve:
one row per retained segment, each row is `[left index, number of dropped interior points]`,
and retained + dropped = n -/
def RemovedRows (n : Nat) (reduced : List Nat) : Prop :=
  (computeRemoved reduced).length + 1 = reduced.length ∧
  (∀ i, i + 1 < reduced.length →
    (computeRemoved reduced)[i]? =
      some (reduced[i]?.getD 0, reduced[i + 1]?.getD 0 - reduced[i]?.getD 0 - 1)) ∧
  reduced.length + ((computeRemoved reduced).map (·.2)).sum = n

theorem removedRows_of_wf {n : Nat} {reduced : List Nat} (h : WellFormed n reduced) :
    RemovedRows n reduced := by
  obtain ⟨_, hf, _, htot⟩ := h
  have hne := (List.getElem?_eq_some_iff.mp hf).1
  refine ⟨?_, fun i hi => computeRemoved_row reduced i hi, htot⟩
  rw [computeRemoved_length]
  exact Nat.sub_add_cancel hne

/-- **C01, fixed-size RDP, removed table.** `rdp_fixed` returns `compute_removed_points(reduced)`:
exactly one row `[left index, dropped count]` per retained segment, and retained + dropped = n,
for every oracle and every `k`. -/
theorem fixed_removed_rows (dst : Nat → Nat → List Rat) (key : Nat → Nat → Nat → Rat × Rat) (n k : Nat)
    (hn : 2 ≤ n) (hd : ∀ l r, (dst l r).length = r - l) : RemovedRows n (rdpFixed dst key n k) :=
  removedRows_of_wf (fixed_wf dst key n k hn hd)

/-- **C01, global RDP, removed table.** Same clause for `grdp`, whatever the global-cost oracle answers. -/
theorem grdp_removed_rows (accept : List Nat → Bool) (dst : Nat → Nat → List Rat)
    (key : Nat → Nat → Nat → Rat × Rat) (n : Nat) (hn : 2 ≤ n) (hd : ∀ l r, (dst l r).length = r - l) :
    RemovedRows n (grdp accept dst key n) :=
  removedRows_of_wf (grdp_total_wf accept dst key n hn hd).1

/-- **C01, min-points variant, removed table.** Same clause for `mp_grdp`, for every `m`. -/
theorem mp_removed_rows (accept : List Nat → Bool) (dst : Nat → Nat → List Rat)
    (key : Nat → Nat → Nat → Rat × Rat) (n m : Nat) (hn : 2 ≤ n) (hd : ∀ l r, (dst l r).length = r - l) :
    RemovedRows n (mpGrdp accept dst key n m) :=
  removedRows_of_wf (mp_wf accept dst key n m hn hd)

/-- **C01, multi-threshold variant, removed table.** Same clause for `min_point_rdp`, for every
threshold list (in particular the descending-sorted one the code uses) and every `m`. -/
theorem minpoint_removed_rows (acceptAt : Rat → List Nat → Bool) (dst : Nat → Nat → List Rat)
    (key : Nat → Nat → Nat → Rat × Rat) (n m : Nat) (hn : 2 ≤ n) (hd : ∀ l r, (dst l r).length = r - l)
    (ts : List Rat) : RemovedRows n (minPointRdp acceptAt dst key n m ts) :=
  removedRows_of_wf (minpoint_wf acceptAt dst key n m hn hd ts)

/-- distance oracle used in the examples: one value per point of the range (so `hd` holds), the
point at offset 2 is the farthest -/
def exDst : Nat → Nat → List Rat := fun l r => (List.range (r - l)).map fun i => if i = 2 then 1 else 0
def exKey : Nat → Nat → Nat → Rat × Rat := fun l _ i => ((l : Rat), ((l + i : Nat) : Rat))

example : ∀ l r, (exDst l r).length = r - l := by intro l r; simp [exDst]

/-- fixed-size: n = 8, k = 5 → exactly 3 steps, 5 points; k = 20 → n - 2 = 6 steps (bound attained) -/
example : fixedSteps exDst exKey (5 - 2) (rinit 8) = 3 ∧ rdpFixed exDst exKey 8 5 = [0, 2, 4, 6, 7] ∧
    fixedSteps exDst exKey (20 - 2) (rinit 8) = 6 ∧
    (fixedLoopC exDst exKey (5 - 2) (rinit 8) 0).2 = 3 ∧
    (fixedLoopC exDst exKey (5 - 2) (rinit 8) 0).1.reduced = [0, 2, 4, 6, 7] := by
  decide +kernel

/-- global: the acceptance oracle accepts from 4 points on → 2 steps; an oracle that never accepts
→ n - 2 = 6 steps (bound attained, fuel `n` = 8 not exhausted) -/
example : grdpSteps (fun red => decide (4 ≤ red.length)) exDst exKey 8 (rinit 8) = 2 ∧
    grdp (fun red => decide (4 ≤ red.length)) exDst exKey 8 = [0, 2, 4, 7] ∧
    grdpSteps (fun _ => false) exDst exKey 8 (rinit 8) = 6 ∧
    (grdp (fun _ => false) exDst exKey 8).length = 8 := by
  decide +kernel

/-- min-points: global phase stops after 1 step (3 points), continuation to m = 6 adds 3 more -/
example : mpSteps (fun red => decide (3 ≤ red.length)) exDst exKey 8 6 = 4 ∧
    grdpSteps (fun red => decide (3 ≤ red.length)) exDst exKey 8 (rinit 8) = 1 ∧
    mpGrdp (fun red => decide (3 ≤ red.length)) exDst exKey 8 6 = [0, 2, 4, 5, 6, 7] := by
  decide +kernel

/-- the acceptance oracle of the multi-threshold example: threshold `t` accepts from `2 / t` points on -/
def exAcc : Rat → List Nat → Bool := fun t red => decide (2 ≤ t * red.length)

/-- multi-threshold: the caller's list [1/2, 1/3, 3/4] is tried as [3/4, 1/2, 1/3]; thresholds 3/4 and
1/2 give too few points (3 resp. 4 < m = 5: 1 + 2 wasted steps), threshold 1/3 gives 6 points
(4 steps): 7 steps in total ≤ (3 + 1) * (8 - 2) -/
example : sortDesc [1/2, 1/3, 3/4] = [3/4, 1/2, 1/3] ∧
    minPointSteps exAcc exDst exKey 8 5 (sortDesc [1/2, 1/3, 3/4]) = 7 ∧
    minPointWasted exAcc exDst exKey 8 5 (sortDesc [1/2, 1/3, 3/4]) = 3 ∧
    minPointRdp exAcc exDst exKey 8 5 (sortDesc [1/2, 1/3, 3/4]) = [0, 2, 4, 5, 6, 7] := by
  decide +kernel

/-- multi-threshold, fallback: no threshold yields m = 8 points, so `rdp_fixed(8)` runs after three
rejected `grdp` runs: 1 + 2 + 4 wasted steps + 6 steps = 13 ≤ (3 + 1) * (8 - 2) -/
example : minPointSteps exAcc exDst exKey 8 8 (sortDesc [1/2, 1/3, 3/4]) = 13 ∧
    minPointWasted exAcc exDst exKey 8 8 (sortDesc [1/2, 1/3, 3/4]) = 7 := by
  decide +kernel

/-- multi-threshold, the bound is attained: with m > n and an oracle that never accepts, every run
refines down to all n points and is rejected: (3 + 1) * (8 - 2) = 24 steps -/
example : minPointSteps (fun _ _ => false) exDst exKey 8 9 [3/4, 1/2, 1/3] = (3 + 1) * (8 - 2) := by
  decide +kernel

/-- removed table on a concrete run: 4 retained segments, 4 rows, 5 + 3 = 8 -/
example : computeRemoved (rdpFixed exDst exKey 8 5) = [(0, 1), (2, 1), (4, 1), (6, 0)] := by
  decide +kernel

end Knee

section Audit
open Knee
#print axioms fixedLoopC_eq
#print axioms grdpLoopC_eq
#print axioms fixedLoop_eq_iterate
#print axioms grdpLoop_eq_iterate
#print axioms grdpLoop_eq_fixedLoop_steps
#print axioms fixedSteps_eq
#print axioms grdpSteps_le
#print axioms fixed_steps_linear
#print axioms grdp_steps_linear
#print axioms grdp_steps_any_fuel
#print axioms mp_steps_linear
#print axioms mp_steps_phases
#print axioms minpoint_steps_split
#print axioms minpoint_steps_linear
#print axioms minpoint_steps_linear_sorted
#print axioms computeRemoved_row
#print axioms removedRows_of_wf
#print axioms fixed_removed_rows
#print axioms grdp_removed_rows
#print axioms mp_removed_rows
#print axioms minpoint_removed_rows
end Audit
