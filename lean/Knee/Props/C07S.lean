import Knee.Props.C07
import Knee.Props.C08F
/-!
# C07S — `rdp.mapping` composed with every simplifier

C07 is stated for an abstract strictly increasing `reduced` starting at `0`.  By `simplify_wf` (C08F)
the pair `(reduced, removed)` that each of the five simplifiers of `rdp.py` returns is of that kind,
with `removed = compute_removed_points(reduced)`; so `mapping(I, reduced, removed) = reduced[I]`.
Oracles: every floating-point quantity (`o.cst`, `o.dst`, `o.key`, `o.gcs`); only contract `hd` (one
distance per point of the range); threshold RDP needs its threshold in the domain (`SimpDomain`).
`simplify_wf` speaks only of the simplifiers, but it stands in Props/C08F, which imports Mathlib: its
`List.sum` is elaborated with Mathlib's `Zero ℕ` instance in scope (see the comment there), so this
file, unlike the other files of C07, is not Mathlib-free.
-/
namespace Knee

/-- the pair a simplifier returns is the one `simplify_wf` speaks of -/
theorem simplify_some {s : Simplifier} {o : SimpOracles} {n : Nat} (hn : 2 ≤ n) (hs : SimpDomain s)
    (hd : ∀ l r, (o.dst l r).length = r - l) {reduced : List Nat} {removed : List (Nat × Nat)}
    (h : simplify s o n = some (reduced, removed)) :
    reduced.Pairwise (· < ·) ∧ reduced[0]? = some 0 ∧ reduced.getLast? = some (n - 1) ∧
      removed = computeRemoved reduced := by
  obtain ⟨reduced', removed', h', hpw, h0, hl, hrem, _⟩ := simplify_wf s o n hn hs hd
  obtain ⟨rfl, rfl⟩ := Prod.mk.inj (Option.some.inj (h.symm.trans h'))
  exact ⟨hpw, h0, hl, hrem⟩

/-- **C07S, removed table.** For all five simplifiers (`rdp`, `grdp`, `rdp_fixed`, `mp_grdp`,
`min_point_rdp`; parameters in the domain), whatever the floating-point primitives return, the
`removed` array returned next to `reduced` equals `compute_removed_points(reduced)`: one row
`[left index, number of dropped interior points]` per pair of consecutive retained indices.  For
the four stack-ordered variants this is how the code computes it; for threshold RDP, which builds
the table from its accepted segments, it is the content of `rdp_total_wf`. -/
theorem simplifier_removed_is_computeRemoved (s : Simplifier) (o : SimpOracles) (n : Nat)
    (hn : 2 ≤ n) (hs : SimpDomain s) (hd : ∀ l r, (o.dst l r).length = r - l)
    (reduced : List Nat) (removed : List (Nat × Nat))
    (h : simplify s o n = some (reduced, removed)) : removed = computeRemoved reduced :=
  (simplify_some hn hs hd h).2.2.2

/-- The four stack-ordered simplifiers return `compute_removed_points(reduced)` by construction:
no hypothesis at all (any `n`, any oracle, any parameter). -/
theorem simplifier_removed_is_computeRemoved_stack (s : Simplifier) (o : SimpOracles) (n : Nat)
    (hs : ∀ isR2 t, s ≠ .rdp isR2 t)
    (reduced : List Nat) (removed : List (Nat × Nat))
    (h : simplify s o n = some (reduced, removed)) : removed = computeRemoved reduced := by
  cases s with
  | rdp isR2 t => exact absurd rfl (hs isR2 t)
  | _ =>
    simp only [simplify, Option.some.injEq, Prod.mk.injEq] at h
    rw [← h.1, ← h.2]

/-- **C07S, mapping after any simplifier, `sorted=True`.** For every simplifier (parameters in its
domain), every oracle family (`hd`) and every curve of `n ≥ 2` points, whatever pair
`(reduced, removed)` the simplifier returns (it does return one: `simplify_wf`),
`mapping(I, reduced, removed) = reduced[I]` for every ascending list `I` of positions of the reduced
curve (`i < len(reduced)`; repetitions allowed).  So knees found on the simplified curve are
reported at exactly the original indices of the retained points they sit on. -/
theorem mapping_after_simplifier_sorted (s : Simplifier) (o : SimpOracles) (n : Nat)
    (hn : 2 ≤ n) (hs : SimpDomain s) (hd : ∀ l r, (o.dst l r).length = r - l)
    (reduced : List Nat) (removed : List (Nat × Nat))
    (h : simplify s o n = some (reduced, removed))
    (I : List Nat) (hI : I.Pairwise (· ≤ ·)) (hb : ∀ i ∈ I, i < reduced.length) :
    mapping I reduced removed true = I.map (fun i => reduced[i]?.getD 0) := by
  obtain ⟨hpw, h0, _, rfl⟩ := simplify_some hn hs hd h
  exact mapping_computeRemoved reduced I hpw h0 hI hb

/-- **C07S, mapping after any simplifier, `sorted=False`.** The same with
`sorted=False` and the rows of the returned table in ANY order (`rows` a permutation of
`removed`): `mapping` sorts the rows by left index itself and the result is again `reduced[I]`. -/
theorem mapping_after_simplifier_unsorted (s : Simplifier) (o : SimpOracles) (n : Nat)
    (hn : 2 ≤ n) (hs : SimpDomain s) (hd : ∀ l r, (o.dst l r).length = r - l)
    (reduced : List Nat) (removed : List (Nat × Nat))
    (h : simplify s o n = some (reduced, removed))
    (rows : List (Nat × Nat)) (hperm : rows.Perm removed)
    (I : List Nat) (hI : I.Pairwise (· ≤ ·)) (hb : ∀ i ∈ I, i < reduced.length) :
    mapping I reduced rows false = I.map (fun i => reduced[i]?.getD 0) := by
  obtain ⟨hpw, h0, _, rfl⟩ := simplify_some hn hs hd h
  exact mapping_unsorted reduced I rows hpw h0 hI hb hperm

/-- **C07S, the mapped indices are valid.** The values `mapping` returns after any
simplifier are retained original indices `< n`, one per position asked for. -/
theorem mapping_after_simplifier_range (s : Simplifier) (o : SimpOracles) (n : Nat)
    (hn : 2 ≤ n) (hs : SimpDomain s) (hd : ∀ l r, (o.dst l r).length = r - l)
    (reduced : List Nat) (removed : List (Nat × Nat))
    (h : simplify s o n = some (reduced, removed))
    (I : List Nat) (hI : I.Pairwise (· ≤ ·)) (hb : ∀ i ∈ I, i < reduced.length) :
    (∀ x ∈ mapping I reduced removed true, x ∈ reduced ∧ x < n) ∧
    (mapping I reduced removed true).length = I.length := by
  rw [mapping_after_simplifier_sorted s o n hn hs hd reduced removed h I hI hb]
  obtain ⟨hpw, _, hlast, _⟩ := simplify_some hn hs hd h
  refine ⟨fun x hx => ?_, by simp⟩
  obtain ⟨i, hi, rfl⟩ := List.mem_map.mp hx
  have hm := getD_mem reduced (hb i hi)
  exact ⟨hm, lt_of_getLast_pred hpw hlast (by omega) _ hm⟩

/-! ### Non-vacuity
Concrete oracle families (10 points; the cost oracle splits every range of more than 3 points,
the distance oracle peaks in the middle, the key is the children's sizes, the global cost is
`1 / len(reduced)`): each of the five simplifiers returns a non-trivial `(reduced, removed)` with
`removed = compute_removed_points(reduced)`, and `mapping` (both with the returned table and with a
shuffled one and `sorted=False`) returns `reduced[I]`.  The hypotheses `hd`, `SimpDomain` hold. -/
private def cstG : Nat → Nat → Rat := fun l r => if r - l > 3 then 1 else 0
private def dstG : Nat → Nat → List Rat := fun l r =>
  (List.range (r - l)).map fun i => ((min i (r - l - 1 - i) : Nat) : Rat)
private def keyG : Nat → Nat → Nat → Rat × Rat := fun l r i =>
  (((i : Nat) : Rat), ((r - l - i : Nat) : Rat))
private def gcsG : List Nat → Rat := fun red => 1 / ((red.length : Nat) : Rat)
private def oG : SimpOracles := ⟨cstG, dstG, keyG, gcsG⟩

example : ∀ l r, (oG.dst l r).length = r - l := by intro l r; simp [oG, dstG]
example : SimpDomain (.rdp false (1/2)) := by simp only [SimpDomain]; decide +kernel
example : SimpDomain (.fixed 5) := trivial

example : simplify (.rdp false (1/2)) oG 10 = some ([0, 2, 4, 6, 7, 9], [(0, 1), (2, 1), (4, 1), (6, 0), (7, 1)]) ∧
    computeRemoved [0, 2, 4, 6, 7, 9] = [(0, 1), (2, 1), (4, 1), (6, 0), (7, 1)] ∧
    mapping [1, 1, 3, 5] [0, 2, 4, 6, 7, 9] [(0, 1), (2, 1), (4, 1), (6, 0), (7, 1)] true = [2, 2, 6, 9] ∧
    mapping [1, 1, 3, 5] [0, 2, 4, 6, 7, 9] [(6, 0), (0, 1), (7, 1), (4, 1), (2, 1)] false = [2, 2, 6, 9] := by
  decide +kernel
example : simplify (.fixed 5) oG 10 = some ([0, 4, 6, 7, 9], [(0, 3), (4, 1), (6, 0), (7, 1)]) ∧
    computeRemoved [0, 4, 6, 7, 9] = [(0, 3), (4, 1), (6, 0), (7, 1)] ∧
    mapping [0, 1, 3] [0, 4, 6, 7, 9] [(0, 3), (4, 1), (6, 0), (7, 1)] true = [0, 4, 7] ∧
    mapping [0, 1, 3] [0, 4, 6, 7, 9] [(7, 1), (4, 1), (0, 3), (6, 0)] false = [0, 4, 7] := by
  decide +kernel
example : simplify (.grdp false (1/5)) oG 10 = some ([0, 2, 4, 6, 7, 9], [(0, 1), (2, 1), (4, 1), (6, 0), (7, 1)]) ∧
    simplify (.mpGrdp false (1/3) 6) oG 10 = some ([0, 2, 4, 6, 7, 9], [(0, 1), (2, 1), (4, 1), (6, 0), (7, 1)]) ∧
    simplify (.minPoint false 5 [1/20, 1/2, 1/4]) oG 10 = some ([0, 4, 6, 7, 9], [(0, 3), (4, 1), (6, 0), (7, 1)]) := by
  decide +kernel

end Knee
