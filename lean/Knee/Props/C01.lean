import Knee.Props.C04
import Knee.Props.C06
/-!
# C01 — curve simplification always terminates with a well-formed reduction

Oracle-parametric (Layer S): the statements hold for EVERY cost oracle `cst` and EVERY distance
oracle `dst` returning one distance per point of the range (`hd`), hence for whatever values the
floating-point primitives produce: collinear runs, zeros, plateaus, huge/tiny magnitudes, rounding
noise at the far end.  Threshold domain as in the property: `t > 0` (`t ≤ 1` for R²).
-/
namespace Knee

/-- **C01, threshold RDP.** `rdp.rdp` terminates (fuel `2n` is never exhausted) and returns a strictly
increasing index list from `0` to `n-1`; the removed table has exactly one row
`[left index, number of dropped interior points]` per retained segment (it *is*
`compute_removed_points reduced`), and retained + dropped = n. -/
theorem rdp_total_wf (isR2 : Bool) (t : Rat) (cst : Nat → Nat → Rat) (dst : Nat → Nat → List Rat) (n : Nat)
    (hn : 2 ≤ n) (ht : if isR2 then t ≤ 1 else 0 < t) (hd : ∀ l r, (dst l r).length = r - l) :
    ∃ reduced removed, rdp isR2 t cst dst n = some (reduced, removed) ∧
      reduced.Pairwise (· < ·) ∧ reduced[0]? = some 0 ∧ reduced.getLast? = some (n - 1) ∧
      removed = computeRemoved reduced ∧
      removed.length + 1 = reduced.length ∧
      reduced.length + (removed.map (·.2)).sum = n := by
  obtain ⟨segs, hseg, hres⟩ := rdp_is_recursive_partition isR2 t cst dst n hn ht hd
  obtain ⟨⟨T, hT⟩, hpw, hcr⟩ := chain_result n segs 0 (IsRDP_tiles hseg hn)
  have h0 : (segs.map (·.1) ++ [n - 1])[0]? = some 0 := by rw [hT]; rfl
  exact ⟨_, _, hres, hpw, h0, List.getLast?_concat, hcr.symm,
    by rw [List.length_append, List.length_map, List.length_map]; rfl,
    hcr ▸ computeRemoved_total_ends hpw h0 List.getLast?_concat (Nat.le_of_succ_le hn)⟩

/-- **C01, step bound.** The number of iterations of the `while stack` loop is at most `2n - 3`
(linear in n), whatever the oracles return. -/
theorem rdp_steps_linear (isR2 : Bool) (t : Rat) (cst : Nat → Nat → Rat) (dst : Nat → Nat → List Rat) (n : Nat)
    (hn : 2 ≤ n) (ht : if isR2 then t ≤ 1 else 0 < t) (hd : ∀ l r, (dst l r).length = r - l) :
    rdpSteps isR2 t cst dst (2 * n) [(0, n)] ≤ 2 * n - 3 := by
  have := rdpSteps_le cst ht hd (2 * n) [(0, n)] (by simpa using hn)
  simpa [pot] using this

def WellFormed (n : Nat) (reduced : List Nat) : Prop :=
  reduced.Pairwise (· < ·) ∧ reduced[0]? = some 0 ∧ reduced.getLast? = some (n - 1) ∧
    reduced.length + ((computeRemoved reduced).map (·.2)).sum = n

/-- **C01, fixed-size RDP.** For every distance/ordering oracle and every `k` (including `k < 2` and
`k > n`), `rdp_fixed` returns a well-formed reduction (its size is `fixed_card`, C05; the number of
loop iterations is `fixed_steps_linear`, C01S). The removed table is `compute_removed_points reduced`
in the code itself, so retained + dropped = n. -/
theorem fixed_wf (dst : Nat → Nat → List Rat) (key : Nat → Nat → Nat → Rat × Rat) (n k : Nat)
    (hn : 2 ≤ n) (hd : ∀ l r, (dst l r).length = r - l) : WellFormed n (rdpFixed dst key n k) := by
  rw [rdpFixed_eq_stepN]
  have h := (stepN_rinit key hd hn (k - 2)).1
  exact ⟨h.inc, h.first, h.last, h.total hn⟩

/-- **C01, global RDP.** Whatever the global-cost oracle answers, `grdp` stops because the cost is
accepted or nothing is left to refine — never because the fuel `n` ran out — after at most `n - 2`
refinements, with a well-formed reduction. -/
theorem grdp_total_wf (accept : List Nat → Bool) (dst : Nat → Nat → List Rat) (key : Nat → Nat → Nat → Rat × Rat)
    (n : Nat) (hn : 2 ≤ n) (hd : ∀ l r, (dst l r).length = r - l) :
    WellFormed n (grdp accept dst key n) ∧
    ∃ j, j + 2 ≤ n ∧ grdp accept dst key n = rdpFixed dst key n (j + 2) ∧
      (accept (grdp accept dst key n) = true ∨ (grdp accept dst key n).length = n) := by
  exact ⟨by rw [grdp_eq_rdpFixed]; exact fixed_wf dst key n _ hn hd,
    grdpSteps accept dst key n (rinit n), grdpSteps_rinit_le accept key hd hn,
    grdp_eq_rdpFixed n, grdp_stop accept key hd hn⟩

/-- **C01, min-points variant.** -/
theorem mp_wf (accept : List Nat → Bool) (dst : Nat → Nat → List Rat) (key : Nat → Nat → Nat → Rat × Rat)
    (n m : Nat) (hn : 2 ≤ n) (hd : ∀ l r, (dst l r).length = r - l) : WellFormed n (mpGrdp accept dst key n m) := by
  rw [mpGrdp_eq accept key hd hn]
  exact fixed_wf dst key n _ hn hd

/-- **C01, multi-threshold variant.** -/
theorem minpoint_wf (acceptAt : Rat → List Nat → Bool) (dst : Nat → Nat → List Rat) (key : Nat → Nat → Nat → Rat × Rat)
    (n m : Nat) (hn : 2 ≤ n) (hd : ∀ l r, (dst l r).length = r - l) (ts : List Rat) :
    WellFormed n (minPointRdp acceptAt dst key n m ts) := by
  rcases minpoint_eq acceptAt dst key n m ts with ⟨_, t, _, _, _, _, h⟩ | h
  · exact h ▸ (grdp_total_wf (acceptAt t) dst key n hn hd).1
  · exact h.2 ▸ fixed_wf dst key n m hn hd

/-! Non-vacuity: a concrete oracle family meeting `hd` on which the loop really splits. -/
example : rdp false (1/100) (fun l r => if r - l ≥ 3 then 1 else 0)
    (fun l r => (List.range (r - l)).map fun i => if i = 1 then 1 else 0) 4
    = some ([0, 1, 2, 3], [(0, 0), (1, 0), (2, 0)]) := by decide +kernel

example : rdpFixed (fun l r => (List.range (r - l)).map fun i => if i = 2 then 1 else 0)
    (fun l _ i => ((l : Rat), ((l + i : Nat) : Rat))) 6 4 = [0, 2, 4, 5] := by decide +kernel

end Knee
