import Knee.Lemmas.EvenPoints
import Knee.Lemmas.GetD
import Knee.Lemmas.Pairs
import Knee.Props.C07
import Knee.Props.C13
/-!
# C14 — evenly inserted points are valid indices, sorted, and respect the worst-knee filter

Model: `Knee.evenInsert`, `Knee.dedupSort` (`np.unique`), `Knee.addEven`
(postprocessing.add_points_even), `Knee.addEvenKnees` (postprocessing.add_points_even_knees),
`Knee.wideQ` / `Knee.nptsQ` (the exact per-segment decisions, Layer N).
Layer S: `wide i` (segment `i` is wide and tall enough) and `npts i` (number of points to insert
into segment `i`) are oracles; the only contract stated is `0 < npts i` (the Python division
`(right-left)/number_points` is defined; the proofs do not use it, since `npts i = 0` inserts
nothing in the model).  `h k` = height of the point with index `k`, `n` = number
of points of the curve.
-/
namespace Knee

/-- exactly `number_points` indices are inserted -/
theorem evenInsert_length (l r k : Nat) : (evenInsert l r k).length = k := by
  simp [evenInsert]

/-- every inserted index lies in the segment `[left, right]` (`_hk` is the Python precondition of
the division; the model's truncating division does not need it) -/
theorem evenInsert_range {l r k : Nat} (hlr : l ≤ r) (_hk : 0 < k) :
    ∀ x ∈ evenInsert l r k, l ≤ x ∧ x ≤ r := by
  intro x hx
  refine ⟨?_, evenInsert_le hlr hx⟩
  rcases mem_evenInsert.1 hx with ⟨j, _, rfl⟩
  exact Nat.le_add_right _ _

/-- the `j`-th inserted index is `left + (j+1)·inc` with `inc = ⌊(right-left)/number_points⌋` -/
theorem evenInsert_spaced (l r k j : Nat) (hj : j < k) :
    (evenInsert l r k)[j]?.getD 0 = l + (j + 1) * ((r - l) / k) := by
  simp [evenInsert, hj]

/-- consecutive inserted indices differ by exactly `inc` (difference form) -/
theorem evenInsert_step (l r k j : Nat) (hj : j + 1 < k) :
    (evenInsert l r k)[j + 1]?.getD 0 = (evenInsert l r k)[j]?.getD 0 + (r - l) / k := by
  rw [evenInsert_spaced l r k (j + 1) hj, evenInsert_spaced l r k j (Nat.lt_of_succ_lt hj),
    Nat.succ_mul (j + 1), Nat.add_assoc]

/-- `np.unique` returns a strictly increasing (sorted, duplicate-free) list -/
theorem dedupSort_strict (l : List Nat) : (dedupSort l).Pairwise (· < ·) := by
  induction l with
  | nil => exact List.Pairwise.nil
  | cons a t ih => exact insertUniq_strict a ih

/-- `np.unique` keeps exactly the values of its input -/
theorem mem_dedupSort {x : Nat} {l : List Nat} : x ∈ dedupSort l ↔ x ∈ l := by
  induction l with
  | nil => rfl
  | cons a t ih => rw [dedupSort_cons, mem_insertUniq, ih, List.mem_cons]

/-- `np.unique` is the identity on a strictly increasing list -/
theorem dedupSort_of_strict {l : List Nat} (h : l.Pairwise (· < ·)) : dedupSort l = l := by
  induction l with
  | nil => rfl
  | cons a t ih =>
    have hp := List.pairwise_cons.1 h
    rw [dedupSort_cons, ih hp.2, insertUniq_of_lt a hp.1]

/-- both variants end with `filter_worst_knees(np.unique(candidates))`: what is returned was a
candidate -/
theorem mem_of_mem_worst_dedupSort {h : Nat → Rat} {l : List Nat} {x : Nat}
    (hx : x ∈ worstFilter h (dedupSort l)) : x ∈ l :=
  mem_dedupSort.1 ((worst_sublist h _).subset hx)

/-! ### `add_points_even_knees` (the knees themselves are the markers) -/

section knees
variable (h : Nat → Rat) (n : Nat) (knees : List Nat) (wide : Nat → Bool) (npts : Nat → Nat)
  (extremes : Bool)

/-- every gap between consecutive markers `0, k₀, …, k_last, n-1` is a valid index interval -/
theorem gaps_valid (hn : 2 ≤ n) (hk : ∀ k ∈ knees, k < n) (hks : knees.Pairwise (· < ·)) :
    ∀ g ∈ gapsOfKnees n knees, g.1 ≤ g.2 ∧ g.2 < n := by
  intro g hg
  have hn1 : n - 1 < n := Nat.sub_lt (Nat.lt_of_lt_of_le Nat.two_pos hn) Nat.one_pos
  have hall : ∀ x ∈ 0 :: knees ++ [n - 1], x < n := by
    simp only [List.cons_append, List.forall_mem_cons, List.forall_mem_append]
    exact ⟨Nat.lt_of_lt_of_le Nat.two_pos hn, hk, hn1, fun _ hx => nomatch hx⟩
  have hpw : (0 :: knees ++ [n - 1]).Pairwise (· ≤ ·) := by
    rw [List.cons_append, List.pairwise_cons, List.pairwise_append]
    exact ⟨fun _ _ => Nat.zero_le _, hks.imp Nat.le_of_lt, List.pairwise_singleton _ _,
      fun a ha b hb => List.mem_singleton.1 hb ▸ Nat.le_sub_one_of_lt (hk a ha)⟩
  exact ⟨zip_tail_rel hpw g (List.drop_one ▸ hg),
    hall _ (List.mem_of_mem_drop (List.of_mem_zip (a := g.1) (b := g.2) hg).2)⟩

/-- Every returned index is a knee, an inserted even point of some wide gap, or — when
`extremes` — one of the two end points. -/
theorem addEvenKnees_mem :
    ∀ x ∈ addEvenKnees h n knees wide npts extremes,
      x ∈ knees ∨
      (∃ i, i < (gapsOfKnees n knees).length ∧ wide i = true ∧
        x ∈ evenInsert ((gapsOfKnees n knees)[i]?.getD (0, 0)).1
          ((gapsOfKnees n knees)[i]?.getD (0, 0)).2 (npts i)) ∨
      (extremes = true ∧ (x = 0 ∨ x = n - 1)) :=
  fun _ hx => mem_evenCands.1 (mem_of_mem_worst_dedupSort hx)

/-- **C14 (knees variant, validity).** Every returned index is a valid index of the curve. -/
theorem addEvenKnees_valid (hn : 2 ≤ n) (hk : ∀ k ∈ knees, k < n)
    (hks : knees.Pairwise (· < ·)) (_hnp : ∀ i, 0 < npts i) :
    ∀ x ∈ addEvenKnees h n knees wide npts extremes, x < n := by
  intro x hx
  rcases addEvenKnees_mem h n knees wide npts extremes x hx with hx | ⟨i, hi, _, hxi⟩ | ⟨_, hx⟩
  · exact hk x hx
  · have hb := gaps_valid n knees hn hk hks _ (getD_mem' (d := (0, 0)) hi)
    exact Nat.lt_of_le_of_lt (evenInsert_le hb.1 hxi) hb.2
  · omega

/-- **C14 (knees variant, order).** The result is strictly increasing. -/
theorem addEvenKnees_strict :
    (addEvenKnees h n knees wide npts extremes).Pairwise (· < ·) :=
  (dedupSort_strict _).sublist (worst_sublist h _)

/-- **C14 (knees variant, heights).** The heights of the result are non-increasing. -/
theorem addEvenKnees_heights :
    (addEvenKnees h n knees wide npts extremes).Pairwise (fun a b => h b ≤ h a) :=
  worst_heights_nonincreasing h _

end knees

/-! ### `add_points_even` (segments of the reduced curve) -/

/-- every candidate under the final worst-knee filter of `add_points_even` is a valid index, so the
original heights are consulted below `n` only -/
theorem addEven_cands_valid (n : Nat) (reduced knees : List Nat) (wide : Nat → Bool)
    (npts : Nat → Nat) (extremes : Bool)
    (hred : reduced.Pairwise (· < ·)) (h0 : reduced[0]? = some 0)
    (hrb : ∀ r ∈ reduced, r < n) (hkb : ∀ k ∈ knees, k < reduced.length) :
    ∀ x ∈ (knees.map (fun k => reduced[k]?.getD 0) ++
        (((List.range (reduced.length - 1)).filter wide).flatMap fun i =>
          evenInsert (reduced[i]?.getD 0) (reduced[i + 1]?.getD 0) (npts i))
        ++ (if extremes then [0, n - 1] else [])), x < n := by
  intro x hx
  have hn : 0 < n := hrb 0 (List.mem_of_getElem? h0)
  rcases mem_evenCands.1 hx with hx | ⟨i, hi, _, hxi⟩ | ⟨_, rfl | rfl⟩
  · rcases List.mem_map.1 hx with ⟨k, hk, rfl⟩
    exact hrb _ (getD_mem reduced (hkb k hk))
  · have hi1 : i + 1 < reduced.length := Nat.add_lt_of_lt_sub hi
    exact Nat.lt_of_le_of_lt
      (evenInsert_le (strict_getD_le reduced hred (Nat.le_add_right i 1) hi1) hxi)
      (hrb _ (getD_mem reduced hi1))
  · exact hn
  · exact Nat.sub_lt hn Nat.one_pos

section reduced
variable (h : Nat → Rat) (n : Nat) (reduced knees : List Nat) (wide : Nat → Bool)
  (npts : Nat → Nat) (extremes : Bool)

/-- With the simplifier's own removed table, both `mapping` calls are look-ups in `reduced`:
the result is the worst-knee filter of the sorted union of the mapped knees, the even points of
every wide segment `reduced[i] … reduced[i+1]`, and (optionally) the two end points. -/
theorem addEven_eq (hred : reduced.Pairwise (· < ·)) (h0 : reduced[0]? = some 0)
    (hkn : knees.Pairwise (· ≤ ·)) (hkb : ∀ k ∈ knees, k < reduced.length) :
    addEven h n reduced (computeRemoved reduced) knees wide npts extremes =
      worstFilter h (dedupSort (knees.map (fun k => reduced[k]?.getD 0) ++
        (((List.range (reduced.length - 1)).filter wide).flatMap fun i =>
          evenInsert (reduced[i]?.getD 0) (reduced[i + 1]?.getD 0) (npts i))
        ++ (if extremes then [0, n - 1] else []))) := by
  unfold addEven
  have hsegs : ((List.range (reduced.length - 1)).filter wide).Pairwise (· < ·) :=
    List.pairwise_lt_range.sublist List.filter_sublist
  have hpos : ∀ p ∈ (((List.range (reduced.length - 1)).filter wide).flatMap fun i => [i, i + 1]),
      p < reduced.length := by
    intro p hp
    rcases List.mem_flatMap.1 hp with ⟨i, hi, hpi⟩
    rw [List.mem_filter, List.mem_range] at hi
    simp only [List.mem_cons, List.not_mem_nil, or_false] at hpi
    omega
  simp only [mapping_computeRemoved reduced knees hred h0 hkn hkb,
    mapping_computeRemoved reduced _ hred h0 (segPositions_mono _ hsegs) hpos,
    pairs_eq npts (fun i => reduced[i]?.getD 0)]

/-- **C14 (reduced variant, validity).** Every returned index is a valid index of the curve. -/
theorem addEven_valid (hred : reduced.Pairwise (· < ·)) (h0 : reduced[0]? = some 0)
    (hrb : ∀ r ∈ reduced, r < n) (hkn : knees.Pairwise (· ≤ ·))
    (hkb : ∀ k ∈ knees, k < reduced.length) (_hnp : ∀ i, 0 < npts i) :
    ∀ x ∈ addEven h n reduced (computeRemoved reduced) knees wide npts extremes, x < n := by
  intro x hx
  rw [addEven_eq h n reduced knees wide npts extremes hred h0 hkn hkb] at hx
  exact addEven_cands_valid n reduced knees wide npts extremes hred h0 hrb hkb x
    (mem_of_mem_worst_dedupSort hx)

/-- **C14 (reduced variant, order).** The result is strictly increasing (no hypothesis). -/
theorem addEven_strict (removed : List (Nat × Nat)) :
    (addEven h n reduced removed knees wide npts extremes).Pairwise (· < ·) :=
  (dedupSort_strict _).sublist (worst_sublist h _)

/-- **C14 (reduced variant, heights).** The heights of the result are non-increasing. -/
theorem addEven_heights (removed : List (Nat × Nat)) :
    (addEven h n reduced removed knees wide npts extremes).Pairwise (fun a b => h b ≤ h a) :=
  worst_heights_nonincreasing h _

end reduced

/-- `add_points_even` (with the simplifier's own removed table) depends on `wide` and `npts` only
at the segment numbers `< len(reduced) - 1` and on the heights only at valid indices `< n`.
No positivity of `npts` is needed. -/
theorem addEven_congr {h h' : Nat → Rat} (n : Nat) (reduced knees : List Nat)
    {wide wide' : Nat → Bool} {npts npts' : Nat → Nat} (extremes : Bool)
    (hred : reduced.Pairwise (· < ·)) (h0 : reduced[0]? = some 0)
    (hrb : ∀ r ∈ reduced, r < n) (hkn : knees.Pairwise (· ≤ ·))
    (hkb : ∀ k ∈ knees, k < reduced.length)
    (hh : ∀ i, i < n → h i = h' i)
    (hwd : ∀ i, i < reduced.length - 1 → wide i = wide' i)
    (hnp : ∀ i, i < reduced.length - 1 → npts i = npts' i) :
    addEven h n reduced (computeRemoved reduced) knees wide npts extremes
      = addEven h' n reduced (computeRemoved reduced) knees wide' npts' extremes := by
  rw [addEven_eq h n reduced knees wide npts extremes hred h0 hkn hkb,
    addEven_eq h' n reduced knees wide' npts' extremes hred h0 hkn hkb,
    List.filter_congr fun i hi => hwd i (List.mem_range.1 hi),
    -- core has no `flatMap_congr`: through `flatten ∘ map` and back
    List.flatMap_def, List.map_congr_left
      (g := fun i => evenInsert (reduced[i]?.getD 0) (reduced[i + 1]?.getD 0) (npts' i))
      fun i hi => by rw [hnp i (List.mem_range.1 (List.mem_filter.1 hi).1)],
    ← List.flatMap_def]
  apply worstFilter_congr
  intro x hx
  exact hh x (addEven_cands_valid n reduced knees wide' npts' extremes hred h0 hrb hkb x
    (mem_dedupSort.1 hx))

/-- A segment that passes the width test (`normalised width > 2·tx`) gets at least two points:
`ceil(width / (2·tx)) ≥ 2` (`_hdx` is the Python precondition of the division by the extent; the
proof does not need it, a width test passed with `tx > 0` implies it). -/
theorem nptsQ_ge_two {xl yl xr yr dx dy tx ty : Rat}
    (hw : wideQ xl yl xr yr dx dy tx ty = true) (htx : 0 < tx) (_hdx : 0 < dx) :
    2 ≤ nptsQ xl xr dx tx := by
  rw [wideQ, Bool.and_eq_true, decide_eq_true_eq] at hw
  have h1 : (1 : Rat) < (rabs (xr - xl) / dx) / (2 * tx) :=
    (Rat.lt_div_iff (Rat.mul_pos (by decide) htx)).2 (by rw [Rat.one_mul]; exact hw.1)
  have h3 : (1 : Int) < Rat.ceil ((rabs (xr - xl) / dx) / (2 * tx)) :=
    Rat.lt_ceil_iff.2 (by simpa using h1)
  unfold nptsQ
  omega

/-! Non-vacuity.  `n = 21`, knees `4, 6, 16`: the gaps are `(0,4), (4,6), (6,16), (16,20)`; gaps 0
(2 points, inc 2: `2, 4`) and 2 (3 points, inc 3: `9, 12, 15`) are wide.  Heights `40 - k`
(decreasing) keep everything; raising point 12 makes the worst-knee filter drop it.  Reduced
variant: `reduced = [0,2,3,12,13,20]`, knees at positions 1 and 4, wide segments 2 (`3…12`, 3 points:
`6, 9, 12`) and 4 (`13…20`, 2 points: `16, 19`). -/
example : evenInsert 3 12 3 = [6, 9, 12] ∧ evenInsert 3 13 3 = [6, 9, 12] := by decide +kernel
example : dedupSort [5, 3, 9, 3, 1, 5] = [1, 3, 5, 9] := by decide +kernel
example : gapsOfKnees 21 [4, 6, 16] = [(0, 4), (4, 6), (6, 16), (16, 20)] := by decide +kernel
example : addEvenKnees (fun k => (((40 : Int) - (k : Int) : Int) : Rat)) 21 [4, 6, 16]
    (fun i => i == 2 || i == 0) (fun i => if i = 2 then 3 else 2) true
    = [0, 2, 4, 6, 9, 12, 15, 16, 20] := by decide +kernel
example : addEvenKnees (fun k => if k = 12 then 100 else (((40 : Int) - (k : Int) : Int) : Rat))
    21 [4, 6, 16] (fun i => i == 2 || i == 0) (fun i => if i = 2 then 3 else 2) false
    = [2, 4, 6, 9, 15, 16] := by decide +kernel
example : addEven (fun k => if k = 12 then 100 else (((40 : Int) - (k : Int) : Int) : Rat)) 21
    [0, 2, 3, 12, 13, 20] (computeRemoved [0, 2, 3, 12, 13, 20]) [1, 4]
    (fun i => i == 2 || i == 4) (fun i => if i = 2 then 3 else 2) true
    = [0, 2, 6, 9, 13, 16, 19, 20] := by decide +kernel
/-- the hypotheses of `addEvenKnees_valid` / `addEven_valid` hold on the examples -/
example : (2 ≤ 21) ∧ (∀ k ∈ [4, 6, 16], k < 21) ∧ ([4, 6, 16] : List Nat).Pairwise (· < ·)
    ∧ ([0, 2, 3, 12, 13, 20] : List Nat).Pairwise (· < ·)
    ∧ ([0, 2, 3, 12, 13, 20] : List Nat)[0]? = some 0
    ∧ (∀ r ∈ [0, 2, 3, 12, 13, 20], r < 21) ∧ ([1, 4] : List Nat).Pairwise (· ≤ ·)
    ∧ (∀ k ∈ [1, 4], k < [0, 2, 3, 12, 13, 20].length) := by decide +kernel
example : ∀ i : Nat, 0 < (if i = 2 then 3 else 2) := by intro i; split <;> omega
/-- Layer N: a segment spanning 6/10 of the width with `tx = 1/10` is wide and gets 3 points -/
example : wideQ 2 10 8 4 10 10 (1/10) (1/10) = true ∧ nptsQ 2 8 10 (1/10) = 3 := by
  decide +kernel

end Knee
