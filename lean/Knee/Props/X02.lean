import Knee.Lemmas.Knees2
import Knee.Lemmas.Basic
import Knee.Lemmas.Rabs
import Knee.Props.C13
/-!
# X02 — `zmethod.knees2`: candidate refinement to a fixed point; `zmethod.map_index`

Model: `Knee/Model/Knees2.lean`.  `near : Nat → Nat → Bool` (box test of two candidates) and
`score : List Nat → List Rat` (`pp.rank_corners` of a neighbourhood list) are ARBITRARY oracles in every
theorem of the round / loop / `knees2` sections: nothing is assumed about floating point, about symmetry
or reflexivity of `near`, or about the length of the score list, unless a theorem names it as a hypothesis.
`v` (thresholded array), `z` (`outlier_z`), `h` (heights), `iou`, `t`, `n` are arbitrary too; candidate lists may contain duplicates
unless a theorem says otherwise.
-/
namespace Knee

variable (near : Nat → Nat → Bool) (score : List Nat → List Rat)

/-- One round only drops candidates and keeps their order. -/
theorem knees2_round_sublist (c : List Nat) : (refineRound near score c).Sublist c :=
  refineRound_sublist near score c

/-- No duplicates in, no duplicates out. -/
theorem knees2_round_nodup (c : List Nat) (hc : c.Nodup) : (refineRound near score c).Nodup :=
  hc.sublist (refineRound_sublist near score c)

/-- Strictly increasing in, strictly increasing out. -/
theorem knees2_round_increasing (c : List Nat) (hc : c.Pairwise (· < ·)) :
    (refineRound near score c).Pairwise (· < ·) :=
  hc.sublist (refineRound_sublist near score c)

theorem knees2_round_mem (c : List Nat) (i : Nat) :
    i ∈ refineRound near score c ↔ i ∈ c ∧ survives near score c i = true := by
  simp [refineRound, List.mem_filter]

/-- The `if` cascade: `i` is appended iff its neighbourhood is exactly `[i]` (alone in its box), or
the neighbourhood has at least two members and the first maximiser of their `rank_corners` scores
is `i`.  (An empty neighbourhood, or a one-member neighbourhood `[a]` with `a ≠ i`, is the "Ups"
branch: nothing appended.) -/
theorem knees2_survives_iff (c : List Nat) (i : Nat) :
    survives near score c i = true ↔
      neighbourhood near c i = [i] ∨
      (2 ≤ (neighbourhood near c i).length ∧
        (neighbourhood near c i)[argmaxIdx (score (neighbourhood near c i))]? = some i) := by
  unfold survives
  generalize neighbourhood near c i = n
  rcases n with _ | ⟨a, _ | ⟨b, rest⟩⟩ <;> simp

theorem knees2_neighbourhood_mem (c : List Nat) (i j : Nat) :
    j ∈ neighbourhood near c i ↔ j ∈ c ∧ near j i = true := by
  simp [neighbourhood, List.mem_filter]

/-- The survivor of the arg-max branch is the FIRST maximum (`np.argmax`): its score is at least
every score of the neighbourhood and strictly above every earlier one. -/
theorem knees2_survivor_first_max (c : List Nat) (i : Nat)
    (h2 : 2 ≤ (neighbourhood near c i).length)
    (hlen : (score (neighbourhood near c i)).length = (neighbourhood near c i).length)
    (hs : survives near score c i = true) :
    ∃ p, p < (neighbourhood near c i).length ∧ (neighbourhood near c i)[p]? = some i ∧
      (∀ q, q < (neighbourhood near c i).length →
        (score (neighbourhood near c i))[q]?.getD 0 ≤ (score (neighbourhood near c i))[p]?.getD 0) ∧
      (∀ q, q < p →
        (score (neighbourhood near c i))[q]?.getD 0 < (score (neighbourhood near c i))[p]?.getD 0) := by
  rcases (knees2_survives_iff near score c i).1 hs with h1 | ⟨_, h⟩
  · rw [h1] at h2; simp at h2
  · have hne : score (neighbourhood near c i) ≠ [] := by
      intro e; rw [e] at hlen; simp at hlen; omega
    obtain ⟨hp, hge, hfirst⟩ := argmaxIdx_isFirstMax hne
    exact ⟨_, hlen ▸ hp, h, fun q hq => hge q (hlen ▸ hq), hfirst⟩

/-- Two candidates with the same neighbourhood list of two or more members cannot both survive. -/
theorem knees2_one_survivor_per_neighbourhood (c : List Nat) (i j : Nat)
    (hn : neighbourhood near c i = neighbourhood near c j)
    (h2 : 2 ≤ (neighbourhood near c i).length)
    (hi : survives near score c i = true) (hj : survives near score c j = true) : i = j := by
  rcases (knees2_survives_iff near score c i).1 hi with h1 | ⟨_, h⟩
  · rw [h1] at h2; simp at h2
  · rcases (knees2_survives_iff near score c j).1 hj with h1' | ⟨_, h'⟩
    · rw [hn, h1'] at h2; simp at h2
    · rw [hn, h'] at h; exact (Option.some.inj h).symm

/-- When every candidate is in its own box (`near i i`; true for finite coordinates and
non-negative steps) the "Ups" branch is dead code: the neighbourhood of a candidate contains the
candidate, and a one-member neighbourhood is `[i]` itself. -/
theorem knees2_ups_unreachable (c : List Nat) (i : Nat) (hi : i ∈ c) (hrefl : near i i = true) :
    neighbourhood near c i ≠ [] ∧
    ((neighbourhood near c i).length = 1 → neighbourhood near c i = [i]) := by
  have hm : i ∈ neighbourhood near c i := (knees2_neighbourhood_mem near c i i).2 ⟨hi, hrefl⟩
  refine ⟨List.ne_nil_of_mem hm, ?_⟩
  intro h1
  obtain ⟨a, ha⟩ := List.length_eq_one_iff.1 h1
  rw [ha] at hm ⊢
  rw [List.mem_singleton.1 hm]

/-- Conversely, a candidate outside its own box (negative step, i.e. `dx < 0` or `dy < 0`,
or a NaN coordinate) that is alone there is dropped. -/
theorem knees2_ups_drops (c : List Nat) (i : Nat) (h : neighbourhood near c i = []) :
    i ∉ refineRound near score c := by
  intro hm
  have := ((knees2_round_mem near score c i).1 hm).2
  rcases (knees2_survives_iff near score c i).1 this with h1 | ⟨h2, _⟩
  · rw [h] at h1; simp at h1
  · rw [h] at h2; simp at h2

/-- A round changes nothing or strictly shortens the candidate list. -/
theorem knees2_round_eq_or_shorter (c : List Nat) :
    refineRound near score c = c ∨ (refineRound near score c).length < c.length :=
  refineRound_eq_or_lt near score c

/-- The loop terminates: `len(candidates) + 1` units of fuel (or more) are never exhausted. -/
theorem knees2_loop_terminates (fuel k0 : Nat) (c : List Nat) (hf : c.length < fuel) :
    (refineLoop near score fuel k0 c).isSome = true := by
  induction fuel generalizing k0 c with
  | zero => exact absurd hf (Nat.not_lt_zero _)
  | succ f ih =>
    by_cases hc : refineRound near score c = c
    · rw [refineLoop_fix hc]; rfl
    · have := (refineRound_eq_or_lt near score c).resolve_left hc
      rw [refineLoop_step hc, Option.isSome_map]
      exact ih _ _ (Nat.lt_of_lt_of_le this (Nat.le_of_lt_succ hf))

/-- The answer does not depend on the fuel once it suffices. -/
theorem knees2_loop_fuel_irrelevant (fuel fuel' k0 : Nat) (c : List Nat)
    (hf : c.length < fuel) (hf' : c.length < fuel') :
    refineLoop near score fuel k0 c = refineLoop near score fuel' k0 c := by
  induction fuel generalizing fuel' k0 c with
  | zero => exact absurd hf (Nat.not_lt_zero _)
  | succ f ih =>
    obtain ⟨g, rfl⟩ := Nat.exists_eq_succ_of_ne_zero (Nat.ne_zero_of_lt hf')
    by_cases hc : refineRound near score c = c
    · rw [refineLoop_fix hc, refineLoop_fix hc]
    · have := (refineRound_eq_or_lt near score c).resolve_left hc
      rw [refineLoop_step hc, refineLoop_step hc,
        ih g _ _ (Nat.lt_of_lt_of_le this (Nat.le_of_lt_succ hf)) (Nat.lt_of_lt_of_le this (Nat.le_of_lt_succ hf'))]

/-- `l` is a fixed point of the round function iff every member is alone in its box or is the
first arg-max of its neighbourhood (taken among the members of `l`). -/
theorem knees2_fixed_point_iff (l : List Nat) :
    refineRound near score l = l ↔
      ∀ i ∈ l, neighbourhood near l i = [i] ∨
        (2 ≤ (neighbourhood near l i).length ∧
          (neighbourhood near l i)[argmaxIdx (score (neighbourhood near l i))]? = some i) := by
  unfold refineRound
  rw [List.filter_eq_self]
  exact forall₂_congr fun i _ => knees2_survives_iff near score l i

/-- The loop returns the FIRST repetition of the iteration `c, round c, round (round c), …`:
the result is the iterate number `rounds - 1`, every earlier round strictly shortened the list, and
the trace lists exactly the iterates. -/
theorem knees2_loop_is_first_fixed_point (fuel : Nat) (c r : List Nat) (k : Nat)
    (tr : List (List Nat)) (h : refineLoop near score fuel 0 c = some (r, k, tr)) :
    r = iterRound near score (k - 1) c ∧
    tr = (List.range k).map (fun j => iterRound near score j c) ∧
    (∀ j, j + 1 < k → (iterRound near score (j + 1) c).length < (iterRound near score j c).length) := by
  obtain ⟨m, h1, rfl, h2, _, h3⟩ := refineLoop_some h
  rw [Nat.zero_add]
  exact ⟨h1, h2, fun j hj => h3 j (Nat.lt_of_succ_lt_succ hj)⟩

/-- One round suffices iff the candidates are already a fixed point. -/
theorem knees2_loop_one_round_iff (fuel : Nat) (c : List Nat) :
    refineLoop near score (fuel + 1) 0 c = some (c, 1, [c]) ↔ refineRound near score c = c :=
  ⟨refineLoop_result_fixed, fun h => refineLoop_fix h _ _⟩

variable (v : List Rat) (z : Rat) (n : Nat) (h iou : Nat → Rat) (t : Rat)

/-- `knees2` returns (the fuel supplied by the wrapper is never exhausted). -/
theorem knees2_terminates : (knees2 v z n h iou t near score).isSome = true := by
  obtain ⟨⟨r, k, tr⟩, hrec⟩ := Option.isSome_iff_exists.1 (knees2_loop_terminates near score _ 0
    (cornerFilter n iou t (worstFilter h (outlierCandidates v z))) (Nat.lt_succ_self _))
  exact Option.isSome_iff_exists.2 ⟨⟨_, _, _, r, k, tr⟩, knees2_stages.2 ⟨rfl, rfl, rfl, hrec⟩⟩

/-- A candidate is an index whose value reaches the threshold (`>=`). -/
theorem knees2_outlier_rule (i : Nat) :
    i ∈ outlierCandidates v z ↔ i < v.length ∧ z ≤ v[i]?.getD 0 := by
  simp [outlierCandidates, List.mem_filter, List.mem_range]

section
variable {near score v z n h iou t}

theorem knees2_chain {o : Knees2Out} (ho : knees2 v z n h iou t near score = some o) :
    o.result.Sublist o.corner ∧ o.corner.Sublist o.worst ∧ o.worst.Sublist o.outliers ∧
    o.outliers.Sublist (List.range v.length) := by
  obtain ⟨h0, h1, h2, h3⟩ := knees2_stages.1 ho
  refine ⟨refineLoop_sublist h3, ?_, ?_, ?_⟩
  · rw [h2]; exact corner_filter_sublist n iou t o.worst
  · rw [h1]; exact worst_sublist h o.outliers
  · rw [h0]; exact outlierCandidates_sublist v z

end

/-- The returned indices are strictly increasing (hence distinct) and in range. -/
theorem knees2_strictly_increasing (o : Knees2Out) (ho : knees2 v z n h iou t near score = some o) :
    o.result.Pairwise (· < ·) ∧ ∀ i ∈ o.result, i < v.length ∧ z ≤ v[i]?.getD 0 := by
  obtain ⟨c1, c2, c3, c4⟩ := knees2_chain ho
  refine ⟨List.pairwise_lt_range.sublist (((c1.trans c2).trans c3).trans c4), fun i hi => ?_⟩
  have : i ∈ o.outliers := ((c1.trans c2).trans c3).subset hi
  rw [(knees2_stages.1 ho).1] at this
  exact (knees2_outlier_rule v z i).1 this

/-- Heights are non-increasing along the result (inherited from the worst-knee filter through the
sublist chain). -/
theorem knees2_heights_nonincreasing (o : Knees2Out)
    (ho : knees2 v z n h iou t near score = some o) :
    o.result.Pairwise (fun a b => h b ≤ h a) := by
  obtain ⟨c1, c2, _, _⟩ := knees2_chain ho
  have hw : o.worst.Pairwise (fun a b => h b ≤ h a) := by
    rw [(knees2_stages.1 ho).2.1]
    exact worst_heights_nonincreasing h o.outliers
  exact hw.sublist (c1.trans c2)

/-- Every returned knee passed the corner filter: it is an end point or its IoU is below `t`. -/
theorem knees2_result_passed_corner (o : Knees2Out)
    (ho : knees2 v z n h iou t near score = some o) :
    ∀ k ∈ o.result, hasNeighbours n k = true → iou k < t := by
  intro k hk
  have : k ∈ o.corner := (knees2_chain ho).1.subset hk
  rw [(knees2_stages.1 ho).2.2.1] at this
  exact ((corner_filter_rule n iou t o.worst k).1 this).2

/-- The result is a fixed point: every returned knee is alone in its box among the returned knees, or
is the first arg-max of `rank_corners` over its neighbourhood among the returned knees. -/
theorem knees2_fixed_point (o : Knees2Out) (ho : knees2 v z n h iou t near score = some o) :
    refineRound near score o.result = o.result ∧
    ∀ i ∈ o.result, neighbourhood near o.result i = [i] ∨
      (2 ≤ (neighbourhood near o.result i).length ∧
        (neighbourhood near o.result i)[argmaxIdx (score (neighbourhood near o.result i))]? = some i) := by
  have hfix := refineLoop_result_fixed (knees2_stages.1 ho).2.2.2
  exact ⟨hfix, (knees2_fixed_point_iff near score o.result).1 hfix⟩

/-- Rounds: at least 1, at most `len(filtered candidates) - len(result) + 1`, hence at most `len(v) + 1`. -/
theorem knees2_rounds_bound (o : Knees2Out) (ho : knees2 v z n h iou t near score = some o) :
    1 ≤ o.rounds ∧ o.rounds + o.result.length ≤ o.corner.length + 1 ∧
    o.rounds ≤ v.length + 1 := by
  have hr := refineLoop_rounds (knees2_stages.1 ho).2.2.2
  obtain ⟨_, c2, c3, c4⟩ := knees2_chain ho
  have := ((c2.trans c3).trans c4).length_le
  rw [List.length_range] at this
  omega

/-- No candidates in, none out, in one round (`np.array_equal([], array([]))` is `True`). -/
theorem knees2_empty : refineLoop near score 1 0 [] = some ([], 1, [[]]) :=
  refineLoop_fix (c := []) rfl 0 0

/-- The box test is reflexive as soon as `x - x = 0`, `y - y = 0` and both steps are `≥ 0`. -/
theorem knees2_near_refl (dxf dyf : Nat → Nat → Rat) (xstep ystep : Rat) (i : Nat)
    (hx : dxf i i = 0) (hy : dyf i i = 0) (h1 : 0 ≤ xstep) (h2 : 0 ≤ ystep) :
    nearOf dxf dyf xstep ystep i i = true := by
  simp [nearOf, hx, hy, rabs_zero, h1, h2]

/-- With a negative step nobody is in anybody's box: the first round drops every candidate. -/
theorem knees2_negative_step_drops_all (dxf dyf : Nat → Nat → Rat) (xstep ystep : Rat)
    (hneg : xstep < 0 ∨ ystep < 0) (c : List Nat) :
    refineRound (nearOf dxf dyf xstep ystep) score c = [] := by
  have hnear : ∀ j i, nearOf dxf dyf xstep ystep j i = false := fun j i =>
    Bool.and_eq_false_iff.2 (hneg.imp
      (fun hn => decide_eq_false fun h => Rat.not_le.2 hn (Rat.le_trans (rabs_nonneg _) h))
      (fun hn => decide_eq_false fun h => Rat.not_le.2 hn (Rat.le_trans (rabs_nonneg _) h)))
  exact List.eq_nil_iff_forall_not_mem.2 fun i =>
    knees2_ups_drops (nearOf dxf dyf xstep ystep) score c i (List.filter_eq_nil_iff.2 fun j _ => by simp [hnear j i])

/-- `rank_corners` returns one score per knee: the first is `x[k₀] - x[0]`, the others are the gaps
to the previous knee of the list. -/
theorem knees2_rank_corners_spec (dxf : Nat → Nat → Rat) (ks : List Nat) :
    (rankCorners dxf ks).length = ks.length ∧
    ∀ q, q < ks.length → (rankCorners dxf ks)[q]?.getD 0 =
      dxf (ks[q]?.getD 0) (if q = 0 then 0 else ks[q - 1]?.getD 0) :=
  ⟨rankCorners_length dxf ks, fun q hq => rankCornersGo_getD dxf 0 ks q hq⟩

/-- `np.array_equal` on two integer lists is list equality: same length and equal element by
element (lists of different length are unequal, two empty lists are equal). -/
theorem knees2_array_equal_iff (a b : List Nat) : arrayEqual a b = true ↔ a = b :=
  arrayEqual_iff a b

/-- Since a round returns a sublist, the loop's stop test is just a length test. -/
theorem knees2_stop_test_is_length_test (c : List Nat) :
    arrayEqual (refineRound near score c) c = true ↔ (refineRound near score c).length = c.length := by
  rw [arrayEqual_iff]
  constructor
  · intro e; rw [e]
  · intro e; exact (refineRound_sublist near score c).eq_of_length e

/-- `sigma` is "a permutation that sorts `a`" (what `np.argsort(a)` returns) -/
def SortsBy (a : List Rat) (sigma : List Nat) : Prop :=
  sigma.Perm (List.range a.length) ∧
  ∀ p q, p ≤ q → q < sigma.length →
    a[sigma[p]?.getD 0]?.getD 0 ≤ a[sigma[q]?.getD 0]?.getD 0

/-- `searchsorted(side='left')` on a sorted view returns the lower bound -/
theorem map_index_search_spec (a : List Rat) (sigma : List Nat) (v : Rat) (hs : SortsBy a sigma) :
    searchLeft a sigma v ≤ sigma.length ∧
    (∀ j, j < searchLeft a sigma v → a[sigma[j]?.getD 0]?.getD 0 < v) ∧
    (∀ j, searchLeft a sigma v ≤ j → j < sigma.length → v ≤ a[sigma[j]?.getD 0]?.getD 0) := by
  obtain ⟨_, p2, p3, p4⟩ := bisectLeft_inv (fun p => a[sigma[p]?.getD 0]?.getD 0) v 0 sigma.length
    (sigma.length + 1) 0 sigma.length (Nat.zero_le _) (Nat.lt_succ_self _)
    (fun h => absurd h (Nat.lt_irrefl _)) (fun h => absurd h (Nat.lt_irrefl _))
  refine ⟨p2, fun j hj => ?_, fun j hj hjl => ?_⟩
  · exact Std.lt_of_le_of_lt
      (hs.2 j _ (Nat.le_sub_one_of_lt hj) (Nat.lt_of_lt_of_le (Nat.sub_one_lt (Nat.ne_zero_of_lt hj)) p2))
      (p3 (Nat.zero_lt_of_lt hj))
  · exact Rat.le_trans (Rat.not_lt.1 (p4 (Nat.lt_of_le_of_lt hj hjl))) (hs.2 _ j hj hjl)

/-- `a[sigma[p]?.getD 0]?.getD 0` is the key at position `p` of the sorted view -/
theorem SortsBy.key_eq {a : List Rat} {sigma : List Nat} (hs : SortsBy a sigma) {p : Nat} (hp : p < sigma.length) :
    ∃ i u, sigma[p]? = some i ∧ a[i]? = some u ∧ a[sigma[p]?.getD 0]?.getD 0 = u := by
  have hi : sigma[p] < a.length := List.mem_range.1 (hs.1.mem_iff.1 (List.getElem_mem hp))
  exact ⟨sigma[p], a[sigma[p]], List.getElem?_eq_getElem hp, List.getElem?_eq_getElem hi, by simp [hp, hi]⟩

theorem SortsBy.exists_key {a : List Rat} {sigma : List Nat} (hs : SortsBy a sigma) {w : Rat} (hw : w ∈ a) :
    ∃ q, q < sigma.length ∧ a[sigma[q]?.getD 0]?.getD 0 = w := by
  obtain ⟨i, hi, rfl⟩ := List.getElem_of_mem hw
  obtain ⟨q, hq, hsq⟩ := List.getElem_of_mem (hs.1.mem_iff.2 (List.mem_range.2 hi))
  exact ⟨q, hq, by simp [hq, hsq, hi]⟩

/-- The entry for `v`, in `a` or not, is an index of the smallest value of `a` that is `≥ v`
("next larger value") whenever there is one (otherwise `map_index_not_found_index_error`). -/
theorem map_index_not_found_next_larger (a : List Rat) (sigma : List Nat) (v : Rat)
    (hs : SortsBy a sigma) (w : Rat) (hw : w ∈ a) (hvw : v ≤ w) :
    ∃ i u, sigma[searchLeft a sigma v]? = some i ∧ a[i]? = some u ∧ v ≤ u ∧
      ∀ w' ∈ a, v ≤ w' → u ≤ w' := by
  obtain ⟨_, hp2, hp3⟩ := map_index_search_spec a sigma v hs
  have above : ∀ w' ∈ a, v ≤ w' → ∃ q, searchLeft a sigma v ≤ q ∧ q < sigma.length ∧
      a[sigma[q]?.getD 0]?.getD 0 = w' := by
    intro w' hw' hv'
    obtain ⟨q, hq, rfl⟩ := hs.exists_key hw'
    exact ⟨q, Nat.le_of_not_lt fun hc => Rat.not_lt.2 hv' (hp2 q hc), hq, rfl⟩
  obtain ⟨q, hpq, hq, _⟩ := above w hw hvw
  have hp := Nat.lt_of_le_of_lt hpq hq
  obtain ⟨i, u, h1, h2, h3⟩ := hs.key_eq hp
  refine ⟨i, u, h1, h2, h3 ▸ hp3 _ (Nat.le_refl _) hp, fun w' hw' hv' => ?_⟩
  obtain ⟨q', hpq', hq', rfl⟩ := above w' hw' hv'
  exact h3 ▸ hs.2 _ q' hpq' hq'

/-- the case `v ∈ a` of `map_index_not_found_next_larger`: the least value of `a` that is `≥ v` is `v` -/
theorem map_index_finds (a : List Rat) (sigma : List Nat) (v : Rat) (hs : SortsBy a sigma)
    (hv : v ∈ a) : ∃ i, sigma[searchLeft a sigma v]? = some i ∧ a[i]? = some v := by
  obtain ⟨i, u, h1, h2, h3, h4⟩ := map_index_not_found_next_larger a sigma v hs v hv Rat.le_refl
  exact ⟨i, h1, by rw [h2, Rat.le_antisymm (h4 v hv Rat.le_refl) h3]⟩

/-- The output has one entry per value of `b`, namely `sort_idx[searchsorted(b[k])]`. -/
theorem map_index_entries (a : List Rat) (sigma : List Nat) :
    ∀ (b : List Rat) (out : List Nat), mapIndex a sigma b = some out →
      out.length = b.length ∧
      ∀ k, k < b.length → out[k]? = sigma[searchLeft a sigma (b[k]?.getD 0)]? ∧ (out[k]?).isSome = true := by
  intro b out h
  fun_induction mapIndex a sigma b generalizing out with
  | case1 => cases h; exact ⟨rfl, fun k hk => absurd hk (Nat.not_lt_zero k)⟩
  | case2 => exact nomatch h
  | case3 => exact nomatch h
  | case4 w ws i h1 r h2 ih =>
    cases h
    obtain ⟨l, g⟩ := ih r h2
    refine ⟨congrArg (· + 1) l, fun k hk => ?_⟩
    cases k with
    | zero => exact ⟨h1.symm, rfl⟩
    | succ k => exact g k (Nat.lt_of_succ_lt_succ hk)

/-- For `a` with distinct values and `b ⊆ values of a`, `map_index(a, b)` returns
(no IndexError) and `out[k]` is THE index in `a` of `b[k]`. -/
theorem map_index_correct (a : List Rat) (sigma : List Nat) (b : List Rat) (hs : SortsBy a sigma)
    (hd : a.Nodup) (hb : ∀ w ∈ b, w ∈ a) :
    ∃ out, mapIndex a sigma b = some out ∧ out.length = b.length ∧
      ∀ k (hk : k < b.length), ∃ i, out[k]? = some i ∧ a[i]? = some b[k] ∧
        ∀ j, a[j]? = some b[k] → j = i := by
  cases ho : mapIndex a sigma b with
  | none =>
    obtain ⟨v, hv, h⟩ := (mapIndex_eq_none_iff a sigma b).1 ho
    obtain ⟨i, hi, _⟩ := map_index_finds a sigma v hs (hb v hv)
    exact nomatch (hi.symm.trans h)
  | some out =>
    obtain ⟨hl, hg⟩ := map_index_entries a sigma b out ho
    refine ⟨out, rfl, hl, fun k hk => ?_⟩
    obtain ⟨i, hi1, hi2⟩ := map_index_finds a sigma b[k] hs (hb _ (List.getElem_mem hk))
    refine ⟨i, ?_, hi2, fun j hj => ?_⟩
    · rw [(hg k hk).1, List.getElem?_eq_getElem hk, Option.getD_some, hi1]
    · obtain ⟨_, hj2⟩ := List.getElem?_eq_some_iff.1 hj
      obtain ⟨_, hi2'⟩ := List.getElem?_eq_some_iff.1 hi2
      exact (List.getElem_inj hd).mp (hj2.trans hi2'.symm)

/-- An IndexError (`none`) when some `v` of `b` is larger than every value of `a` (the position is
`len(a)`, one past the end of `sort_idx`); in particular for every `v` when `a` is empty. -/
theorem map_index_not_found_index_error (a : List Rat) (sigma : List Nat) (b : List Rat) (v : Rat)
    (hs : SortsBy a sigma) (hv : v ∈ b) (hbig : ∀ w ∈ a, w < v) : mapIndex a sigma b = none := by
  refine (mapIndex_eq_none_iff a sigma b).2 ⟨v, hv, List.getElem?_eq_none_iff.2 (Nat.le_of_not_lt fun hp => ?_)⟩
  obtain ⟨i, u, _, h2, h3⟩ := hs.key_eq hp
  exact Rat.not_lt.2 ((map_index_search_spec a sigma v hs).2.2 _ (Nat.le_refl _) hp)
    (h3 ▸ hbig u (List.mem_of_getElem? h2))

section Examples

/-- boxes: `near j i` iff `|j - i| ≤ 1` (indices as coordinates) -/
private def nearEx (j i : Nat) : Bool := decide (j ≤ i + 1) && decide (i ≤ j + 1)
/-- `rank_corners` over `x = index` -/
private def scoreEx : List Nat → List Rat := rankCorners (fun a b => (a : Int) - (b : Int))

/- one round on `[2,3,4,8]`: 2,3,4 share boxes; neighbourhood of 2 is `[2,3]` with ranks `[2,1]` → 2 survives,
of 3 is `[2,3,4]` ranks `[2,1,1]` → 2 ≠ 3 dropped, of 4 is `[3,4]` ranks `[3,1]` → dropped, 8 is alone. -/
example : refineRound nearEx scoreEx [2, 3, 4, 8] = [2, 8] := by decide +kernel
/- the loop on the same list: two rounds (one that drops, one that confirms) -/
example : refineLoop nearEx scoreEx 5 0 [2, 3, 4, 8] = some ([2, 8], 2, [[2, 3, 4, 8], [2, 8]]) := by
  decide +kernel
private def xsEx : List Rat := [0, 7, 12, 15, 17]
private def ysEx : List Rat := [1, 5, 2, 2, 7]
private def nearEx2 : Nat → Nat → Bool :=
  nearOf (fun a b => xsEx[a]?.getD 0 - xsEx[b]?.getD 0) (fun a b => ysEx[a]?.getD 0 - ysEx[b]?.getD 0) 10 3
private def scoreEx2 : List Nat → List Rat := rankCorners (fun a b => xsEx[a]?.getD 0 - xsEx[b]?.getD 0)
/- a run with THREE rounds over coordinates `x = 0,7,12,15,17`, `y = 1,5,2,2,7`, `x_step = 10`, `y_step = 3`
(exact differences): `[1,2,3,4] → [1,4] → [4]`; the bound `rounds + len(result) ≤ len(candidates) + 1` is attained
by neither this (3 + 1 ≤ 5) nor any run that drops two candidates in one round. -/
example : refineLoop nearEx2 scoreEx2 5 0 [1, 2, 3, 4] = some ([4], 3, [[1, 2, 3, 4], [1, 4], [4]]) := by
  decide +kernel
/- the bound is attained: one candidate dropped per round -/
example : refineLoop nearEx2 scoreEx2 3 0 [1, 4] = some ([4], 2, [[1, 4], [4]]) := by decide +kernel
/- the whole function: thresholded values `v`, `z = 1`, heights decreasing except index 5 -/
example : knees2 [0, 2, 3, 0, 1, 5, 1, 0, 4] 1 9
    (fun k => ([9, 8, 7, 6, 5, 6, 4, 3, 2] : List Rat)[k]?.getD 0)
    (fun k => if k = 6 then 1/2 else 1/10) (3/10) nearEx scoreEx =
    some ⟨[1, 2, 4, 5, 6, 8], [1, 2, 4, 6, 8], [1, 2, 4, 8], [1, 4, 8], 2, [[1, 2, 4, 8], [1, 4, 8]]⟩ := by
  decide +kernel
/- "Ups" with a non-reflexive box test: everybody is dropped -/
example : refineLoop (fun _ _ => false) scoreEx 3 0 [1, 2] = some ([], 2, [[1, 2], []]) := by decide +kernel
example : arrayEqual [1, 2] [1, 2, 3] = false ∧ arrayEqual [] [] = true ∧ arrayEqual [1, 3] [1, 2] = false := by
  decide +kernel
/- `map_index`: `a = [5, 1, 3]`, `argsort = [1, 2, 0]`; 3 ↦ 2, 5 ↦ 0, 1 ↦ 1; 4 ∉ a ↦ index of 5; 6 > max ↦ IndexError -/
example : SortsBy [5, 1, 3] [1, 2, 0] := by
  refine ⟨by decide, ?_⟩
  intro p q hpq hq
  have hq3 : q < 3 := hq
  have hp' : p = 0 ∨ p = 1 ∨ p = 2 := by omega
  have hq' : q = 0 ∨ q = 1 ∨ q = 2 := by omega
  rcases hp' with rfl | rfl | rfl <;> rcases hq' with rfl | rfl | rfl <;>
    first | omega | decide +kernel
example : mapIndex [5, 1, 3] [1, 2, 0] [3, 5, 1, 4] = some [2, 0, 1, 0] := by decide +kernel
example : mapIndex [5, 1, 3] [1, 2, 0] [3, 6] = none := by decide +kernel

end Examples

end Knee
