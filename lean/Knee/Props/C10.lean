import Knee.Lemmas.ZMethod
/-!
# C10 — Z-method knee selector: validity, order, separation, termination

Model: `Knee.zLoop`, `Knee.zPoints` (zmethod.getPoints), `Knee.zKnees` (zmethod.knees) in
`Model/ZMethod.lean`.  Exact ℚ; the threshold sequence `zthr` is an oracle.  Everything here is read
off the reported list `swept outl = sweep 1 (sortByX outl)` of the outliers the loop returns
(`zPoints_some`).
-/
namespace Knee

/-- **C10 (sweep).** After the sweep the heights are non-increasing from left to right. -/
theorem sweep_heights (m : Rat) (l : List (Rat × Rat)) :
    (sweep m l).Pairwise (fun a b => b.2 ≤ a.2) := by
  fun_induction sweep m l with
  | case1 => exact .nil
  | case2 _ _ _ _ ih => exact ih
  | case3 _ p ps _ ih => exact .cons (sweep_le p.2 ps) ih

/-- the keys of the dictionary are exactly the x values that were inserted -/
theorem mem_sortByX_fst (l : List (Rat × Rat)) (x : Rat) :
    x ∈ (sortByX l).map (·.1) ↔ x ∈ l.map (·.1) := by
  -- read the left fold as a right fold over `l.reverse`: no accumulator to generalise
  rw [sortByX, List.foldl_eq_foldr_reverse, ← List.mem_reverse (as := l.map _), ← List.map_reverse]
  induction l.reverse with
  | nil => exact Iff.rfl
  | cons c cs ih => rw [List.foldr_cons, mem_insertByX_fst, ih, List.map_cons, List.mem_cons]

/-- between reported points, ordered in x and in height, the `rabs` of `Sep` can be removed -/
theorem Sep.swept_pairwise {w h : Rat} {outl : List (Rat × Rat)} (hsep : Sep w h outl) :
    (swept outl).Pairwise (fun a b => w ≤ b.1 - a.1 ∧ h ≤ a.2 - b.2) := by
  refine ((swept_sorted outl).and (sweep_heights ..)).imp_of_mem fun {a b} ha hb hab => ?_
  have := hsep.of_ne (swept_subset outl a ha) (swept_subset outl b hb)
    fun e => Rat.lt_irrefl (e ▸ hab.1)
  rwa [rabs_sub_of_le (Rat.le_of_lt hab.1), rabs_sub_comm, rabs_sub_of_le hab.2] at this

/-- **C10 (provenance).** Every outlier returned by the loop is the `(x, y)` of an input point. -/
theorem zLoop_outl_from_pts (w h : Rat) (zthr : Nat → Rat) (minz : Rat) (fuel k : Nat)
    (pts : List P3) (outl : List (Rat × Rat))
    (hres : zLoop w h zthr minz fuel k pts [] = some outl) :
    ∀ o ∈ outl, ∃ p ∈ pts, o = (p.1, p.2.1) := by
  -- the working set only shrinks, so "comes from the working set" lifts to "comes from `pts`"
  obtain ⟨_, -, h2⟩ := zLoop_invariant
    (fun pts' outl => pts'.Sublist pts ∧ ∀ o ∈ outl, ∃ p ∈ pts, o = (p.1, p.2.1))
    (fun thr pts' outl ⟨h1, h2⟩ => ⟨(zRound_sublist ..).trans h1, fun o ho => by
      obtain ⟨sel, he, hs⟩ := zRound_outl w h thr pts' outl
      exact (List.mem_append.1 (he ▸ ho)).elim (h2 o)
        fun ho => (hs o ho).imp fun p hp => ⟨h1.subset hp.1, hp.2⟩⟩)
    ⟨.refl _, fun _ h => absurd h List.not_mem_nil⟩ hres
  exact h2

/-- The instance `cs = [b]` of `tryOutliers_sep` (x-separation of `b` from the old outliers comes from
`Clear`, y-separation from `yOk`). -/
theorem tryOutliers_single_sep {w h : Rat} (b : P3) (pts : List P3) (outl : List (Rat × Rat))
    (hsep : Sep w h outl) (hclear : Clear w h outl pts) (hb : b ∈ pts) :
    Sep w h (tryOutliers w h [b] pts outl 0).2.1 ∧
      Clear w h (tryOutliers w h [b] pts outl 0).2.1 (tryOutliers w h [b] pts outl 0).1 := by
  rw [Sep, List.pairwise_and_iff] at hsep
  refine tryOutliers_sep [b] pts outl 0 (List.pairwise_append.2 ⟨hsep.1,
    List.pairwise_singleton .., fun o ho o' ho' => ?_⟩) hsep.2 hclear
  obtain rfl := List.mem_singleton.1 ho'
  exact le_rabs_sub_iff.2 (hclear o ho b hb).1

/-- **C10 (separation invariant).** For a working set with strictly increasing x, the outliers
returned by the loop are pairwise at least `w` apart in x and at least `h` apart in y.
(Single- and multi-group rounds; no sign condition on `w`, `h` is needed.) -/
theorem zLoop_sep {w h : Rat} (zthr : Nat → Rat) (minz : Rat) (fuel k : Nat) (pts : List P3)
    (outl : List (Rat × Rat)) (hres : zLoop w h zthr minz fuel k pts [] = some outl)
    (hpts : pts.Pairwise (fun a b => a.1 < b.1)) : Sep w h outl := by
  obtain ⟨_, -, h2, -⟩ := zLoop_invariant
    (fun pts outl => pts.Pairwise (fun a b => a.1 < b.1) ∧ Sep w h outl ∧ Clear w h outl pts)
    (fun thr pts outl ⟨h1, h2, h3⟩ =>
      ⟨h1.sublist (zRound_sublist ..), zRound_sep thr pts outl h1 h2 h3⟩)
    ⟨hpts, List.Pairwise.nil, fun _ h => absurd h List.not_mem_nil⟩ hres
  exact h2

/-- **C10 (separation, final list).** In the swept, x-sorted list of selected points, from left
to right x increases by at least `w` and the height drops by at least `h` at every step
(hence between any two entries). -/
theorem zLoop_final_separated {w h : Rat} (zthr : Nat → Rat) (minz : Rat) (fuel k : Nat)
    (pts : List P3) (outl : List (Rat × Rat))
    (hres : zLoop w h zthr minz fuel k pts [] = some outl)
    (hpts : pts.Pairwise (fun a b => a.1 < b.1)) :
    (sweep 1 (sortByX outl)).Pairwise (fun a b => w ≤ b.1 - a.1 ∧ h ≤ a.2 - b.2) :=
  (zLoop_sep zthr minz fuel k pts outl hres hpts).swept_pairwise

/-- What `getPoints` returns: the keys of the swept dictionary of a list of outliers, `[]` for a
short or flat curve and what the loop selected otherwise. -/
theorem zPoints_some {xs ys zs : List Rat} {w h ymin : Rat} {zthr : Nat → Rat} {fuel : Nat}
    {sel : List Rat} (hsel : zPoints xs ys zs w h ymin zthr fuel = some sel) :
    ∃ outl, sel = (swept outl).map (·.1) ∧
      (∀ o ∈ outl, ∃ p ∈ xs.zip (ys.zip zs), o = (p.1, p.2.1)) ∧
      (xs.Pairwise (· < ·) → Sep w h outl) := by
  revert hsel
  fun_cases zPoints with
  | case1 | case2 =>
    exact fun hsel => ⟨[], (Option.some.inj hsel).symm, fun _ h => absurd h List.not_mem_nil,
      fun _ => List.Pairwise.nil⟩
  | case3 =>
    intro hsel
    obtain ⟨outl, hl, rfl⟩ := Option.map_eq_some_iff.1 hsel
    exact ⟨outl, rfl, zLoop_outl_from_pts (hres := hl),
      fun hx => zLoop_sep (hres := hl) (hpts := zip_pairwise_fst hx _)⟩

/-- **C10 (order).** `getPoints` returns strictly increasing x values. -/
theorem zPoints_sorted {xs ys zs : List Rat} {w h ymin : Rat} {zthr : Nat → Rat} {fuel : Nat}
    {sel : List Rat} (hsel : zPoints xs ys zs w h ymin zthr fuel = some sel) :
    sel.Pairwise (· < ·) := by
  obtain ⟨outl, rfl, -, -⟩ := zPoints_some hsel
  exact List.pairwise_map.2 (swept_sorted outl)

/-- **C10 (validity).** Every x returned by `getPoints` is an x of the input curve.
(No length hypothesis is needed: `zip` truncates.) -/
theorem zPoints_subset {xs ys zs : List Rat} {w h ymin : Rat} {zthr : Nat → Rat} {fuel : Nat}
    {sel : List Rat} (hsel : zPoints xs ys zs w h ymin zthr fuel = some sel) :
    ∀ x ∈ sel, x ∈ xs := by
  obtain ⟨outl, rfl, hfrom, -⟩ := zPoints_some hsel
  intro x hx
  obtain ⟨p, hp, rfl⟩ := List.mem_map.1 hx
  obtain ⟨q, hq, rfl⟩ := hfrom p (swept_subset outl p hp)
  exact (List.of_mem_zip (a := q.1) (b := q.2) hq).1

/-- **C10 (validity).** Every knee index is a valid index of the curve. -/
theorem zKnees_valid {xs ys zs : List Rat} {w h ymin : Rat} {zthr : Nat → Rat} {fuel : Nat}
    {ks : List Nat} (hks : zKnees xs ys zs w h ymin zthr fuel = some ks) :
    ∀ k ∈ ks, k < xs.length := by
  obtain ⟨sel, hsel, rfl⟩ := Option.map_eq_some_iff.1 hks
  intro k hk
  obtain ⟨x, hx, rfl⟩ := List.mem_map.1 hk
  exact List.idxOf_lt_length_of_mem (zPoints_subset hsel x hx)

/-- **C10 (order).** For a strictly increasing `xs` the knee indices are strictly increasing
(in particular distinct). -/
theorem zKnees_strict {xs ys zs : List Rat} {w h ymin : Rat} {zthr : Nat → Rat} {fuel : Nat}
    {ks : List Nat} (hx : xs.Pairwise (· < ·))
    (hks : zKnees xs ys zs w h ymin zthr fuel = some ks) : ks.Pairwise (· < ·) := by
  obtain ⟨sel, hsel, rfl⟩ := Option.map_eq_some_iff.1 hks
  exact List.pairwise_map.2 ((zPoints_sorted hsel).imp_of_mem fun ha hb hab =>
    idxOf_lt_of_lt hx (zPoints_subset hsel _ ha) (zPoints_subset hsel _ hb) hab)

/-- the knee indices point at the selected x values (stated for what `getPoints` returns, `zPoints`) -/
theorem zKnees_getElem {xs ys zs : List Rat} {w h ymin : Rat} {zthr : Nat → Rat} {fuel : Nat}
    {sel : List Rat} (hsel : zPoints xs ys zs w h ymin zthr fuel = some sel) :
    ∀ x ∈ sel, xs[xs.idxOf x]? = some x := by
  intro x hx
  have hlt := List.idxOf_lt_length_of_mem (zPoints_subset hsel x hx)
  rw [List.getElem?_eq_getElem hlt, List.getElem_idxOf hlt]

/-- **C10 (separation of the result).** For a strictly increasing `xs`, consecutive (hence any
two) x values returned by `getPoints` are at least `w` apart. -/
theorem zPoints_gap {xs ys zs : List Rat} {w h ymin : Rat} {zthr : Nat → Rat} {fuel : Nat}
    {sel : List Rat} (hx : xs.Pairwise (· < ·))
    (hsel : zPoints xs ys zs w h ymin zthr fuel = some sel) :
    sel.Pairwise (fun a b => w ≤ b - a) := by
  obtain ⟨outl, rfl, -, hsep⟩ := zPoints_some hsel
  exact List.pairwise_map.2 ((hsep hx).swept_pairwise.imp And.left)

/-- **C10 (separation of the result, any two).** For a strictly increasing `xs`, any two distinct
x values returned by `getPoints` are at least `w` apart (`zPoints_gap` in absolute-value form). -/
theorem zPoints_separated {xs ys zs : List Rat} {w h ymin : Rat} {zthr : Nat → Rat} {fuel : Nat}
    {sel : List Rat} (hx : xs.Pairwise (· < ·))
    (hsel : zPoints xs ys zs w h ymin zthr fuel = some sel) :
    ∀ a ∈ sel, ∀ b ∈ sel, a ≠ b → w ≤ rabs (a - b) := by
  obtain ⟨outl, rfl, -, hsep⟩ := zPoints_some hsel
  intro a ha b hb hne
  obtain ⟨p, hp, rfl⟩ := List.mem_map.1 ha
  obtain ⟨q, hq, rfl⟩ := List.mem_map.1 hb
  exact ((hsep hx).of_ne (swept_subset _ _ hp) (swept_subset _ _ hq) fun e => hne (e ▸ rfl)).1

/-- **C10 (termination).** If the threshold sequence is at or below the minimal z from round `K`
on and `w > 0`, the loop returns within `K + |pts| + 2` rounds: after round `K` every round
either stops or selects an outlier and thereby removes at least that outlier's own point.
(`zLoop_total_from` is the general form, from any round and state, with `+ 1`.) -/
theorem zLoop_total {w h : Rat} (hw : 0 < w) (zthr : Nat → Rat) (minz : Rat) (K : Nat)
    (hK : ∀ k, K ≤ k → zthr k ≤ minz) (pts : List P3) (fuel : Nat)
    (hfuel : K + pts.length + 2 ≤ fuel) :
    ∃ outl, zLoop w h zthr minz fuel 0 pts [] = some outl :=
  zLoop_total_from hw zthr minz fuel 0 K pts [] (fun k hk => hK k (Nat.zero_add K ▸ hk))
    (Nat.le_of_succ_le hfuel)

theorem zKnees_total {xs ys zs : List Rat} {w h ymin : Rat} (hw : 0 < w) (zthr : Nat → Rat)
    (K : Nat) (hK : ∀ k, K ≤ k → zthr k ≤ minZ (xs.zip (ys.zip zs))) (fuel : Nat)
    (hfuel : K + xs.length + 2 ≤ fuel) :
    ∃ ks, zKnees xs ys zs w h ymin zthr fuel = some ks := by
  have hlen : (xs.zip (ys.zip zs)).length ≤ xs.length := List.length_zip ▸ Nat.min_le_left ..
  obtain ⟨outl, ho⟩ := zLoop_total (h := h) hw zthr _ K hK (xs.zip (ys.zip zs)) fuel
    (Nat.le_trans (Nat.add_le_add_right (Nat.add_le_add_left hlen K) 2) hfuel)
  unfold zKnees
  fun_cases zPoints with
  | case1 | case2 => exact ⟨_, rfl⟩
  | case3 => exact ⟨_, congrArg _ (congrArg _ ho)⟩

/-! Non-vacuity: a concrete step curve (8 points, two z-outliers `≥ 3` at x = 2 and x = 5, which
fall into two gap-groups in round 0, i.e. the multi-group branch) has strictly increasing x, and
the model computes knees on it with `0 < w`, the two hypotheses the theorems use (the lengths agree
and `0 ≤ h` as well, which no theorem needs). -/
private def exs : List Rat := [0, 1, 2, 3, 4, 5, 6, 7]
private def eys : List Rat := [1, 7/8, 3/4, 1/4, 1/4, 1/8, 0, 0]
private def ezs : List Rat := [0, 1, 7/2, 0, 1/2, 3, -1, 0]
private def ethr (k : Nat) : Rat := 3 - (k : Rat) / 2

example : zKnees exs eys ezs 1 (1/8) 0 ethr 18 = some [0, 1, 2, 4, 5, 7] := by decide +kernel
example : zKnees exs eys ezs 2 (1/4) 0 ethr 18 = some [0, 2, 5] := by decide +kernel
example : zKnees exs eys ezs 1 (1/8) 0 ethr 6 = none := by decide +kernel
example : exs.Pairwise (· < ·) ∧ exs.length = eys.length ∧ eys.length = ezs.length
    ∧ (0 : Rat) < 1 ∧ (0 : Rat) ≤ 1/8 := by decide +kernel
/-- round 0 is a multi-group round that selects both z-outliers -/
example : (splitGaps 1 ((exs.zip (eys.zip ezs)).filter fun p => decide (ethr 0 ≤ p.2.2))).length = 2
    ∧ (zRound 1 (1/8) (ethr 0) (exs.zip (eys.zip ezs)) []).2 = ([(2, 3/4), (5, 1/8)], 2) := by
  decide +kernel
example : zLoop 2 (1/4) ethr (-1) 18 0 (exs.zip (eys.zip ezs)) []
    = some [(2, 3/4), (5, 1/8), (0, 1)] := by decide +kernel
/-- the termination hypothesis holds with `K = 8`, and `18 = 8 + 8 + 2` -/
example : ∃ ks, zKnees exs eys ezs 1 (1/8) 0 ethr 18 = some ks := by
  refine zKnees_total (by decide +kernel) ethr 8 ?_ 18 (by decide)
  intro k hk
  have h8 : (8 : Rat) ≤ (k : Rat) := by exact_mod_cast hk
  have hm : minZ (exs.zip (eys.zip ezs)) = -1 := by decide +kernel
  rw [hm]; unfold ethr; grind

end Knee
