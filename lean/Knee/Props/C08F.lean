import Knee.Model.PipelineCfg
import Knee.Model.PipelineFull
import Knee.Props.C01
import Knee.Lemmas.MultiKnee
import Knee.Props.C08
import Knee.Props.C14
-- `simplify_wf` sums a list of naturals: its `Zero ℕ` instance is the one Mathlib finds with this module in scope
import Mathlib.Algebra.GroupWithZero.Nat
/-!
# C08F — the whole pipeline, end to end, for EVERY configuration

Model: `Knee.pipelineCfg` (`Knee/Model/PipelineCfg.lean`): any of the five simplifiers
(`rdp`, `grdp`, `rdp_fixed`, `mp_grdp`, `min_point_rdp`) → `multiKnee` on the reduced curve →
worst-knee filter → corner filter → any of the three cluster filters (left/linear/right ranking,
hull ranking, corners) → either `rdp.mapping` or `postprocessing.add_points_even`.

Oracles: every floating-point quantity.  The only contracts are those of the component theorems:
`hd` (the distance oracle returns one value per point of the range), `hdet` (the detector's range
contract on ranges longer than `t2`), `hl` (the linkage assigns one label per knee), the threshold
domain of threshold RDP (`SimpDomain`), and `0 < npts i` for `add_points_even`.  There is no shape
contract on the corner-area oracle of the `corners` cluster filter: it may return a list of any
length.
-/
namespace Knee

/-- The parameter domain of a simplifier: threshold RDP (`rdp.rdp`) needs `t > 0` for the
distance costs and `t ≤ 1` for R² (the domain of `rdp_total_wf`; outside it the Python loop finds a
two-point segment "curved" and raises `ValueError` on the `argmax` of its empty interior); the four stack-ordered variants (`grdp`, `rdp_fixed`,
`mp_grdp`, `min_point_rdp`) are well formed for every parameter value. -/
def SimpDomain : Simplifier → Prop
  | .rdp isR2 t => if isR2 then t ≤ 1 else 0 < t
  | .grdp _ _ => True
  | .fixed _ => True
  | .mpGrdp _ _ _ => True
  | .minPoint _ _ _ => True

/-- the four stack-ordered simplifiers return `(r, computeRemoved r)` for the list `r` their C01
theorem calls `WellFormed` (`hs` holds by `rfl` for each of them) -/
theorem simplify_of_wf {s : Simplifier} {o : SimpOracles} {n : Nat} {r : List Nat}
    (hs : simplify s o n = some (r, computeRemoved r)) (h : WellFormed n r) :
    ∃ reduced removed, simplify s o n = some (reduced, removed) ∧
      reduced.Pairwise (· < ·) ∧ reduced[0]? = some 0 ∧ reduced.getLast? = some (n - 1) ∧
      removed = computeRemoved reduced ∧ reduced.length + (removed.map (·.2)).sum = n :=
  ⟨r, computeRemoved r, hs, h.1, h.2.1, h.2.2.1, rfl, h.2.2.2⟩

/-- **C08F (simplifier stage).** Whichever of the five simplifiers of `rdp.py` is chosen, with its
parameters in the domain and whatever the floating-point cost/distance/ordering/global-cost
primitives return (as long as the distance primitive returns one value per point of the range),
on a curve of `n ≥ 2` points the simplifier terminates and returns `(reduced, removed)` where
`reduced` is a strictly increasing index list from `0` to `n - 1`, `removed` is exactly
`compute_removed_points(reduced)`, and retained + dropped points add up to `n`. -/
theorem simplify_wf (s : Simplifier) (o : SimpOracles) (n : Nat) (hn : 2 ≤ n) (hs : SimpDomain s)
    (hd : ∀ l r, (o.dst l r).length = r - l) :
    ∃ reduced removed, simplify s o n = some (reduced, removed) ∧
      reduced.Pairwise (· < ·) ∧ reduced[0]? = some 0 ∧ reduced.getLast? = some (n - 1) ∧
      removed = computeRemoved reduced ∧ reduced.length + (removed.map (·.2)).sum = n := by
  cases s with
  | rdp isR2 t =>
    obtain ⟨reduced, removed, hrdp, hpw, h0, hlast, hrem, _, hsum⟩ :=
      rdp_total_wf isR2 t o.cst o.dst n hn hs hd
    exact ⟨reduced, removed, hrdp, hpw, h0, hlast, hrem, hsum⟩
  | grdp isR2 t =>
    exact simplify_of_wf rfl (grdp_total_wf (acceptOf isR2 t o.gcs) o.dst o.key n hn hd).1
  | fixed k =>
    exact simplify_of_wf rfl (fixed_wf o.dst o.key n k hn hd)
  | mpGrdp isR2 t m =>
    exact simplify_of_wf rfl (mp_wf (acceptOf isR2 t o.gcs) o.dst o.key n m hn hd)
  | minPoint isR2 m ts =>
    exact simplify_of_wf rfl
      (minpoint_wf (fun t => acceptOf isR2 t o.gcs) o.dst o.key n m hn hd (sortDesc ts))

/-- **C08F (cluster stage).** Each of the three cluster filters (`filter_clusters` with
left/linear/right ranking, with hull ranking, and `filter_clusters_corner`) returns a subsequence
of the knees it is given, as soon as the linkage assigns one label per knee. -/
theorem clusterStage_sublist (cm : ClusterMode) (labels knees : List Nat)
    (h : labels.length = knees.length) : (clusterStage cm labels knees).Sublist knees := by
  cases cm with
  | rank score => exact clusterFilter_sublist score labels knees h
  | hull hull herr => exact clusterFilterHull_sublist hull herr labels knees h
  | corners area => exact clusterFilterCorners_sublist area labels knees h

theorem pipelineCfg_eq_some {s : Simplifier} {o : SimpOracles} {n : Nat}
    {det : Nat → Nat → Option Nat} {gate : Nat → Nat → Bool} {t2 : Nat}
    (h : Nat → Rat) (iou : Nat → Rat) (tc : Rat) (labelsOf : List Nat → List Nat)
    (cm : ClusterMode) (fin : Final) {reduced knees : List Nat} {removed : List (Nat × Nat)}
    (hs : simplify s o n = some (reduced, removed))
    (hk : multiKnee det gate t2 reduced.length = some knees) :
    pipelineCfg s o n det gate t2 h iou tc labelsOf cm fin = some
      (let w := worstFilter h knees
       let c := cornerFilter reduced.length iou tc w
       let k := clusterStage cm (labelsOf c) c
       { reduced := reduced, removed := removed, knees := knees, worst := w, corner := c,
         cluster := k,
         out := match fin with
          | .map => mapping k reduced removed true
          | .addEven hOrig wide npts ext => addEven hOrig n reduced removed k wide npts ext }) := by
  cases fin <;> simp only [pipelineCfg, hs, hk]

theorem pipelineCfg_front (s : Simplifier) (o : SimpOracles) (n : Nat)
    (det : Nat → Nat → Option Nat) (gate : Nat → Nat → Bool) (t2 : Nat)
    (hn : 2 ≤ n) (hs : SimpDomain s) (hd : ∀ l r, (o.dst l r).length = r - l)
    (hdet : DetOKLarge t2 det) :
    ∃ reduced knees, simplify s o n = some (reduced, computeRemoved reduced) ∧
      multiKnee det gate t2 reduced.length = some knees ∧
      reduced.Pairwise (· < ·) ∧ reduced[0]? = some 0 ∧ reduced.getLast? = some (n - 1) ∧
      (∀ r ∈ reduced, r < n) ∧ knees.Pairwise (· < ·) ∧ ∀ k ∈ knees, k + 2 ≤ reduced.length := by
  obtain ⟨reduced, removed, hsimp, hpw, h0, hlast, rfl, _⟩ := simplify_wf s o n hn hs hd
  obtain ⟨knees, hmk, hkpw, hkb⟩ :=
    multiKnee_sorted_range_large (gate := gate) hdet (List.getElem?_eq_some_iff.1 h0).1
  exact ⟨reduced, knees, hsimp, hmk, hpw, h0, hlast,
    lt_of_getLast_pred hpw hlast (Nat.lt_of_lt_of_le Nat.two_pos hn), hkpw, hkb⟩

/-- **C08F (end to end, every configuration).** For every simplifier (parameters in its domain),
every detector / straightness gate / size gate, every cluster filter and either final stage, and
for every value the floating-point primitives may return (subject only to the shape contracts
`hd`, `hdet`, `hl`), the whole Python pipeline on a curve of `n ≥ 2` points completes, and:
the simplifier's `reduced` is a strictly increasing index list from `0` to `n - 1` whose removed
table is `compute_removed_points(reduced)`; `multi_knee` returns strictly increasing positions of
the reduced curve, never its last point; the worst-knee, corner and cluster filters each return a
subsequence of their input; from the worst-knee filter onwards the (reduced-curve) heights are
non-increasing from left to right; and the final stage (the `match` in the conclusion): with
`rdp.mapping` the reported knees are the retained points at the surviving reduced-space
positions (strictly increasing, `< n`, one per surviving knee); with `add_points_even` (and
`0 < npts i`) the output is strictly increasing, `< n`, with non-increasing original heights. -/
theorem pipelineCfg_end_to_end (s : Simplifier) (o : SimpOracles) (n : Nat)
    (det : Nat → Nat → Option Nat) (gate : Nat → Nat → Bool) (t2 : Nat)
    (h : Nat → Rat) (iou : Nat → Rat) (tc : Rat) (labelsOf : List Nat → List Nat)
    (cm : ClusterMode) (fin : Final)
    (hn : 2 ≤ n) (hs : SimpDomain s) (hd : ∀ l r, (o.dst l r).length = r - l)
    (hdet : DetOKLarge t2 det) (hl : ∀ ks, (labelsOf ks).length = ks.length) :
    ∃ S, pipelineCfg s o n det gate t2 h iou tc labelsOf cm fin = some S ∧
      (S.reduced.Pairwise (· < ·) ∧ S.reduced[0]? = some 0 ∧ S.reduced.getLast? = some (n - 1) ∧
        S.removed = computeRemoved S.reduced) ∧
      (multiKnee det gate t2 S.reduced.length = some S.knees ∧ S.knees.Pairwise (· < ·) ∧
        ∀ k ∈ S.knees, k + 2 ≤ S.reduced.length) ∧
      (S.worst.Sublist S.knees ∧ S.corner.Sublist S.worst ∧ S.cluster.Sublist S.corner) ∧
      (S.worst.Pairwise (fun a b => h b ≤ h a) ∧ S.corner.Pairwise (fun a b => h b ≤ h a) ∧
        S.cluster.Pairwise (fun a b => h b ≤ h a)) ∧
      match fin with
      | .map =>
        S.out = S.cluster.map (fun k => S.reduced[k]?.getD 0) ∧ S.out.Pairwise (· < ·) ∧
        (∀ x ∈ S.out, x ∈ S.reduced) ∧ (∀ x ∈ S.out, x < n) ∧ S.out.length = S.cluster.length
      | .addEven hOrig _ npts _ =>
        (∀ i, 0 < npts i) →
          S.out.Pairwise (· < ·) ∧ (∀ x ∈ S.out, x < n) ∧
          S.out.Pairwise (fun a b => hOrig b ≤ hOrig a) := by
  obtain ⟨reduced, knees, hsimp, hmk, hpw, h0, hlast, hrb, hkpw, hkb⟩ :=
    pipelineCfg_front s o n det gate t2 hn hs hd hdet
  have hkb' : ∀ k ∈ knees, k < reduced.length := fun k hk => Nat.lt_of_succ_lt (hkb k hk)
  have t := tail_wf h reduced.length iou tc (fun c => clusterStage cm (labelsOf c) c)
    (fun c => clusterStage_sublist cm (labelsOf c) c (hl c)) reduced knees hpw h0 hkpw hkb'
  refine ⟨_, pipelineCfg_eq_some h iou tc labelsOf cm fin hsimp hmk, ⟨hpw, h0, hlast, rfl⟩,
    ⟨hmk, hkpw, hkb⟩, t.sub, t.heights, ?_⟩
  cases fin with
  | map => exact ⟨t.mapped_eq, t.strict, t.subset, fun x hx => hrb x (t.subset x hx), t.length⟩
  | addEven hOrig wide npts ext =>
    intro hnp
    -- reduce the projections of the stage record first: under each `_` the unifier would unfold them
    dsimp only
    exact ⟨addEven_strict hOrig n reduced _ wide npts ext _,
      addEven_valid hOrig n reduced _ wide npts ext hpw h0 hrb
        (t.cluster_strict.imp Nat.le_of_lt) t.cluster_lt hnp,
      addEven_heights hOrig n reduced _ wide npts ext _⟩

/-- **C08F, `rdp.mapping` configurations.** The end-to-end statement specialised to the mapping
final stage: the reported knees are the retained simplification points at the surviving
reduced-space positions, strictly increasing valid indices, one per surviving knee. -/
theorem pipelineCfg_end_to_end_map (s : Simplifier) (o : SimpOracles) (n : Nat)
    (det : Nat → Nat → Option Nat) (gate : Nat → Nat → Bool) (t2 : Nat)
    (h : Nat → Rat) (iou : Nat → Rat) (tc : Rat) (labelsOf : List Nat → List Nat)
    (cm : ClusterMode)
    (hn : 2 ≤ n) (hs : SimpDomain s) (hd : ∀ l r, (o.dst l r).length = r - l)
    (hdet : DetOKLarge t2 det) (hl : ∀ ks, (labelsOf ks).length = ks.length) :
    ∃ S, pipelineCfg s o n det gate t2 h iou tc labelsOf cm .map = some S ∧
      S.out = S.cluster.map (fun k => S.reduced[k]?.getD 0) ∧ S.out.Pairwise (· < ·) ∧
      (∀ x ∈ S.out, x ∈ S.reduced) ∧ (∀ x ∈ S.out, x < n) ∧ S.out.length = S.cluster.length := by
  obtain ⟨S, hS, _, _, _, _, hfin⟩ :=
    pipelineCfg_end_to_end s o n det gate t2 h iou tc labelsOf cm .map hn hs hd hdet hl
  exact ⟨S, hS, hfin⟩

/-- **C08F, `add_points_even` configurations.** The end-to-end statement specialised to the
even-points final stage: the output of `add_points_even` on the pipeline's knees is a strictly
increasing list of valid indices of the original curve with non-increasing original heights. -/
theorem pipelineCfg_end_to_end_addEven (s : Simplifier) (o : SimpOracles) (n : Nat)
    (det : Nat → Nat → Option Nat) (gate : Nat → Nat → Bool) (t2 : Nat)
    (h : Nat → Rat) (iou : Nat → Rat) (tc : Rat) (labelsOf : List Nat → List Nat)
    (cm : ClusterMode) (hOrig : Nat → Rat) (wide : Nat → Bool) (npts : Nat → Nat) (ext : Bool)
    (hn : 2 ≤ n) (hs : SimpDomain s) (hd : ∀ l r, (o.dst l r).length = r - l)
    (hdet : DetOKLarge t2 det) (hl : ∀ ks, (labelsOf ks).length = ks.length)
    (hnp : ∀ i, 0 < npts i) :
    ∃ S, pipelineCfg s o n det gate t2 h iou tc labelsOf cm (.addEven hOrig wide npts ext) = some S ∧
      S.out.Pairwise (· < ·) ∧ (∀ x ∈ S.out, x < n) ∧
      S.out.Pairwise (fun a b => hOrig b ≤ hOrig a) := by
  obtain ⟨S, hS, _, _, _, _, hfin⟩ :=
    pipelineCfg_end_to_end s o n det gate t2 h iou tc labelsOf cm (.addEven hOrig wide npts ext)
      hn hs hd hdet hl
  exact ⟨S, hS, hfin hnp⟩

/-- **C08F (the C08E pipeline is one configuration).** The demo pipeline `pipelineFull`
(threshold RDP → multi-knee → worst → corner → rank cluster filter → mapping) is, stage for
stage, the configuration `(.rdp isR2 t, .rank score, .map)` of `pipelineCfg`; the ordering-key and
global-cost oracles `key`, `gcs` are not consulted by threshold RDP, so they are arbitrary. -/
theorem pipelineFull_is_instance (isR2 : Bool) (t : Rat) (cst : Nat → Nat → Rat)
    (dst : Nat → Nat → List Rat) (key : Nat → Nat → Nat → Rat × Rat) (gcs : List Nat → Rat) (n : Nat)
    (det : Nat → Nat → Option Nat) (gate : Nat → Nat → Bool) (t2 : Nat)
    (h : Nat → Rat) (iou : Nat → Rat) (tc : Rat) (labelsOf : List Nat → List Nat)
    (score : List Nat → List Rat) :
    pipelineFull isR2 t cst dst n det gate t2 h iou tc labelsOf score =
      (pipelineCfg (.rdp isR2 t) ⟨cst, dst, key, gcs⟩ n det gate t2 h iou tc labelsOf
        (.rank score) .map).map
        (fun S => (S.reduced,
          { worst := S.worst, corner := S.corner, cluster := S.cluster, mapped := S.out })) := by
  unfold pipelineFull pipelineCfg
  simp only [simplify]
  cases rdp isR2 t cst dst n with
  | none => rfl
  | some p =>
    obtain ⟨reduced, removed⟩ := p
    simp only
    cases multiKnee det gate t2 reduced.length with
    | none => rfl
    | some knees => rfl

/-! Non-vacuity: `pipelineCfg` evaluated on concrete oracle families (24 points; the
C08E example declares the first of them again: the cost oracle splits every range of more than 3
points, the distance oracle peaks in the middle, the detector answers the middle of every range of
at least 3 points; in addition an ordering key, a global cost `1 / len(reduced)`, three clusters, a
hull-error and a corner-area oracle, and original-curve heights with one raised point for `add_points_even`).
Shown: `((reduced, knees, worst), (corner, cluster, out))` (two triples: a flat 6-tuple exceeds the
instance-size limit of `DecidableEq` synthesis).  All five simplifiers, all three cluster
modes and both final stages occur, and in each run several knees survive to the cluster stage.
The hypotheses of the theorems hold on this data (last examples). -/
private def cstF : Nat → Nat → Rat := fun l r => if r - l > 3 then 1 else 0
private def dstF : Nat → Nat → List Rat := fun l r =>
  (List.range (r - l)).map fun i => ((min i (r - l - 1 - i) : Nat) : Rat)
private def keyF : Nat → Nat → Nat → Rat × Rat := fun l r i =>
  (((i : Nat) : Rat), ((r - l - i : Nat) : Rat))
private def gcsF : List Nat → Rat := fun red => 1 / ((red.length : Nat) : Rat)
private def oF : SimpOracles := ⟨cstF, dstF, keyF, gcsF⟩
private def detF : Nat → Nat → Option Nat := fun l r =>
  if r - l ≥ 3 then some ((r - l - 2) / 2) else none
private def hF : Nat → Rat := fun k => if k = 3 then 39/2 else 20 - ((k : Int) : Rat)
private def iouF : Nat → Rat := fun k => if k = 5 then 3/4 else 0
private def labF : List Nat → List Nat := fun ks =>
  ks.map fun k => if k < 4 then 0 else if k < 10 then 1 else 2
private def scoreF : List Nat → List Rat := fun c => c.map fun k => ((k : Int) : Rat)
private def herrF : List Nat → Nat → Rat := fun _ j => ((j : Int) : Rat)
private def areaF : List Nat → List Rat := fun c => c.map fun k => (((k % 4 : Nat) : Int) : Rat)
private def hOrigF : Nat → Rat := fun k => if k = 12 then 100 else 40 - ((k : Int) : Rat)
private def wideF : Nat → Bool := fun i => i == 2 || i == 4
private def nptsF : Nat → Nat := fun i => if i = 2 then 3 else 2
private def viewF (S : StagesCfg) :
    (List Nat × List Nat × List Nat) × (List Nat × List Nat × List Nat) :=
  ((S.reduced, S.knees, S.worst), (S.corner, S.cluster, S.out))

/-- threshold RDP × hull ranking × mapping: 16 retained points, 7 knees, 3 survive -/
example : Option.map viewF
    (pipelineCfg (.rdp false (1/2)) oF 24 detF (fun _ _ => true) 1 hF iouF (2/5) labF
      (.hull [1, 7, 11] herrF) .map)
    = some (([0, 2, 3, 5, 6, 8, 9, 11, 12, 14, 15, 17, 18, 20, 21, 23],
        [1, 3, 5, 7, 9, 11, 13],
        [1, 5, 7, 9, 11, 13]),
        ([1, 7, 9, 11, 13],
        [1, 7, 11], [2, 11, 17])) := by decide +kernel
/-- fixed-size RDP (12 points) × corner cluster filter × `add_points_even` with the extremes:
the raised point 12 is not reported, the output is sorted and its original heights decrease -/
example : Option.map viewF
    (pipelineCfg (.fixed 12) oF 24 detF (fun _ _ => true) 1 hF iouF (2/5) labF
      (.corners areaF) (.addEven hOrigF wideF nptsF true))
    = some (([0, 2, 3, 5, 8, 11, 14, 15, 17, 20, 21, 23],
        [0, 2, 3, 5, 6, 8, 9],
        [0, 2, 5, 6, 8, 9]),
        ([0, 2, 6, 8, 9],
        [2, 6], [0, 3, 9, 10, 14, 23])) := by decide +kernel
/-- global RDP (distance cost) × rank cluster filter × `add_points_even` without the extremes -/
example : Option.map viewF
    (pipelineCfg (.grdp false (1/15)) oF 24 detF (fun _ _ => true) 1 hF iouF (2/5) labF
      (.rank scoreF) (.addEven hOrigF wideF nptsF false))
    = some (([0, 2, 3, 5, 8, 9, 10, 11, 14, 15, 16, 17, 20, 21, 22, 23],
        [1, 3, 5, 7, 9, 11, 13],
        [1, 5, 7, 9, 11, 13]),
        ([1, 7, 9, 11, 13],
        [1, 9, 13], [2, 3, 8, 15, 21])) := by decide +kernel
/-- global RDP (R² cost, never accepted: every point is retained) × rank × mapping -/
example : Option.map viewF
    (pipelineCfg (.grdp true (9/10)) oF 24 detF (fun _ _ => true) 1 hF iouF (2/5) labF
      (.rank scoreF) .map)
    = some ((List.range 24,
        [0, 2, 3, 5, 6, 8, 9, 11, 12, 14, 15, 17, 18, 20, 21],
        [0, 2, 5, 6, 8, 9, 11, 12, 14, 15, 17, 18, 20, 21]),
        ([0, 2, 6, 8, 9, 11, 12, 14, 15, 17, 18, 20, 21],
        [2, 9, 21], [2, 9, 21])) := by
  decide +kernel
/-- min-points global RDP (topped up to 14 points) × hull ranking × mapping -/
example : Option.map viewF
    (pipelineCfg (.mpGrdp false (1/5) 14) oF 24 detF (fun _ _ => true) 1 hF iouF (2/5)
      labF (.hull [1, 5] herrF) .map)
    = some (([0, 2, 3, 5, 8, 9, 10, 11, 14, 15, 17, 20, 21, 23],
        [0, 2, 4, 6, 7, 9, 11],
        [0, 2, 4, 6, 7, 9, 11]),
        ([0, 2, 4, 6, 7, 9, 11],
        [2, 9], [3, 15])) := by decide +kernel
/-- multi-threshold RDP (thresholds given unsorted; `1/4` yields too few points, `1/12` is used)
× corner cluster filter × mapping -/
example : Option.map viewF
    (pipelineCfg (.minPoint false 10 [1/20, 1/4, 1/12]) oF 24 detF (fun _ _ => true) 1
      hF iouF (2/5) labF (.corners areaF) .map)
    = some (([0, 2, 3, 5, 8, 9, 11, 14, 15, 17, 20, 21, 23],
        [0, 2, 3, 5, 6, 8, 10],
        [0, 2, 5, 6, 8, 10]),
        ([0, 2, 6, 8, 10],
        [2, 6, 10], [3, 11, 20])) := by decide +kernel
/-- the hypotheses of `pipelineCfg_end_to_end` hold for the oracle families above -/
example : SimpDomain (.rdp false (1/2)) := by simp only [SimpDomain]; decide +kernel
example : ∀ l r, (oF.dst l r).length = r - l := by
  intro l r; show (dstF l r).length = _; rw [dstF, List.length_map, List.length_range]
example : DetOKLarge 1 detF := by
  intro l r k _ h2
  rw [detF] at h2
  split at h2
  · cases h2; omega
  · cases h2
example : ∀ ks, (labF ks).length = ks.length := fun _ => List.length_map _
example : ∀ i, 0 < nptsF i := by intro i; unfold nptsF; split <;> omega

end Knee
