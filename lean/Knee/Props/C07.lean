import Knee.Lemmas.Mapping
/-!
# C07 — reduced-space indices map back to exactly the original indices

Model: `Knee.computeRemoved` (rdp.compute_removed_points), `Knee.mapping` (rdp.mapping).
Integers only; no oracle, no tolerance.  The clause "compute_removed_points reproduces the removed
table returned by each simplifier" is `simplifier_removed_is_computeRemoved` (`Props/C07S.lean`).
-/
namespace Knee

/-- **C07 (sorted table).** For every strictly increasing `reduced` starting at 0 and every
ascending (not necessarily strict) list `I` of positions in the reduced curve,
`mapping(I, reduced, compute_removed_points(reduced)) = reduced[I]`. -/
theorem mapping_computeRemoved (reduced I : List Nat)
    (hinc : reduced.Pairwise (· < ·)) (h0 : reduced[0]? = some 0)
    (hI : I.Pairwise (· ≤ ·)) (hb : ∀ i ∈ I, i < reduced.length) :
    mapping I reduced (computeRemoved reduced) true = I.map (fun i => reduced[i]?.getD 0) := by
  have h := mappingAux_computeRemoved reduced hinc I 0 0 (Nat.zero_add _) hI
    (fun i hi => ⟨Nat.zero_le _, hb i hi⟩)
  rw [h0] at h
  -- by computation: `mapping … true` is `mappingAux … 0`, `reduced.drop 0` is `reduced`, `x - 0` is `x`
  exact h

/-- **C07 (unsorted table).** With `sorted=False` the same holds for *any row order* of the
removed table. -/
theorem mapping_unsorted (reduced I : List Nat) (rows : List (Nat × Nat))
    (hinc : reduced.Pairwise (· < ·)) (h0 : reduced[0]? = some 0)
    (hI : I.Pairwise (· ≤ ·)) (hb : ∀ i ∈ I, i < reduced.length)
    (hperm : rows.Perm (computeRemoved reduced)) :
    mapping I reduced rows false = I.map (fun i => reduced[i]?.getD 0) := by
  have := mapping_computeRemoved reduced I hinc h0 hI hb
  simp only [mapping, Bool.false_eq_true, if_false, if_true] at this ⊢
  rw [sortRows_of_perm reduced hinc rows hperm]
  exact this

/-- retained + dropped = n: the table accounts for every original index between the ends. -/
theorem removed_accounts_for_all (s : List Nat) (hs : s.Pairwise (· < ·)) (hne : s ≠ []) :
    s.length + ((computeRemoved s).map (·.2)).sum = s.getLast?.getD 0 - s[0]?.getD 0 + 1 :=
  computeRemoved_total s hs hne

/-- one row per retained segment -/
theorem removed_one_row_per_segment (s : List Nat) : (computeRemoved s).length = s.length - 1 :=
  computeRemoved_length s

/-! Non-vacuity: a concrete non-trivial reduction satisfies every hypothesis, and the model
computes what the theorem says. -/
example : ([0, 3, 4, 9] : List Nat).Pairwise (· < ·) ∧ ([0, 3, 4, 9] : List Nat)[0]? = some 0
    ∧ ([1, 1, 3] : List Nat).Pairwise (· ≤ ·) ∧ (∀ i ∈ [1, 1, 3], i < [0, 3, 4, 9].length) := by
  decide +kernel
example : mapping [1, 1, 3] [0, 3, 4, 9] (computeRemoved [0, 3, 4, 9]) true = [3, 3, 9] := by decide +kernel
example : mapping [1, 2] [0, 3, 4, 9] [(4, 4), (0, 2), (3, 0)] false = [3, 4] := by decide +kernel

end Knee
