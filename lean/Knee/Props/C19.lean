import Knee.Lemmas.Cm
/-!
# C19 — confusion-matrix and score invariants

Model: `Knee.cm` (evaluation.cm), `Knee.accuracyQ`, `Knee.f1Q`, `Knee.mccNum`/`Knee.mccDenSq`
(evaluation.accuracy / f1score / mcc; MCC is handled through its numerator and *squared*
denominator so that no square root is needed).  Every `cm_*` theorem holds for *every* distance
oracle `d : Nat → Nat → Rat` (`d e j` = normalised x-distance from expected point `e` to knee `j`)
and every tolerance `t`.  `nk` = number of knees, `ne` = number of expected points, `n` = number
of points; a result is `(tp, fp, fn, tn)`.
-/
namespace Knee

/-- **C19 (TP + FN = |E|).** Every expected point is counted exactly once, either as a true
positive or as a false negative. -/
theorem cm_tp_fn (d : Nat → Nat → Rat) (t : Rat) (n nk ne : Nat) :
    (cm d t n nk ne).1 + (cm d t n nk ne).2.2.1 = ne := by
  exact (cmGo_count d t nk (List.range ne) (0, 0, [])).trans
    (by rw [List.length_range]; exact Nat.zero_add ne)

/-- **C19 (TP ≤ |K|).** With at least one knee, a knee is matched at most once, so TP never
exceeds the number of knees: the clip in the code's `fp = max(len(knees) - tp, 0)` (the truncated
subtraction `nk - tp` of the model) is never active. -/
theorem cm_tp_le_knees (d : Nat → Nat → Rat) (t : Rat) (n nk ne : Nat) (hk : 0 < nk) :
    (cm d t n nk ne).1 ≤ nk :=
  cmGo_tp_le d t hk (List.range ne)

/-- **C19 (TP + FP = |K|).** -/
theorem cm_tp_fp (d : Nat → Nat → Rat) (t : Rat) (n nk ne : Nat) (hk : 0 < nk) :
    (cm d t n nk ne).1 + (cm d t n nk ne).2.1 = nk :=
  Nat.add_sub_cancel' (cm_tp_le_knees d t n nk ne hk)

/-- **C19 (entries sum to n).** `tn` is *defined* as the remainder, so this needs no hypothesis
(not even `0 < nk`); the content is in `cm_tn_nonneg`. -/
theorem cm_sum (d : Nat → Nat → Rat) (t : Rat) (n nk ne : Nat) :
    let r := cm d t n nk ne
    (r.1 : Int) + r.2.1 + r.2.2.1 + r.2.2.2 = n := by
  simp only [cm]
  omega

/-- **C19 (TN ≥ 0).** If knees and expected points together do not outnumber the points, the
unclipped `tn = n - (tp + fp + fn)` is non-negative. -/
theorem cm_tn_nonneg (d : Nat → Nat → Rat) (t : Rat) (n nk ne : Nat) (hk : 0 < nk)
    (h : nk + ne ≤ n) : 0 ≤ (cm d t n nk ne).2.2.2 := by
  have h1 := cm_tp_fp d t n nk ne hk
  have h2 := cm_tp_fn d t n nk ne
  simp only [cm] at h1 h2 ⊢
  omega

/-- **C19 (greedy step).** After a prefix of the expected points has produced the state
`(tp, fn, used)`, the next expected point `e` is a true positive iff its nearest knee
`idx = argmin_j d e j` is within tolerance *and* has not been used before; otherwise it is a
false negative.  Nothing else is ever consulted (in particular not the second-nearest knee). -/
theorem cm_greedy_step (d : Nat → Nat → Rat) (t : Rat) (nk e : Nat) (es : List Nat)
    (tp fn : Nat) (used : List Nat) :
    cmGo d t nk (e :: es) (tp, fn, used) =
      if ((List.range nk).map (d e))[argminIdx ((List.range nk).map (d e))]?.getD 0 ≤ t
          ∧ argminIdx ((List.range nk).map (d e)) ∉ used
      then cmGo d t nk es (tp + 1, fn, argminIdx ((List.range nk).map (d e)) :: used)
      else cmGo d t nk es (tp, fn + 1, used) := by
  simp only [cmGo]

/-- **C19 (accuracy ∈ [0,1]).** No `0 < tp + fp + fn + tn` hypothesis is needed: in the
degenerate all-zero case (where the code divides by zero) Lean's `0 / 0 = 0` is still in `[0,1]`,
so the statement is simply stronger. -/
theorem accuracy_unit (tp fp fn : Nat) (tn : Int) (h0 : 0 ≤ tn) :
    0 ≤ accuracyQ tp fp fn tn ∧ accuracyQ tp fp fn tn ≤ 1 := by
  unfold accuracyQ
  rw [add_assoc ((tp : Rat) + tn)]
  exact ratio_unit (add_nonneg (Nat.cast_nonneg _) (Int.cast_nonneg h0))
    (add_nonneg (Nat.cast_nonneg _) (Nat.cast_nonneg _))

/-- **C19 (F1 ∈ [0,1]).** Likewise without the `0 < 2*tp + fp + fn` hypothesis. -/
theorem f1_unit (tp fp fn : Nat) :
    0 ≤ f1Q tp fp fn ∧ f1Q tp fp fn ≤ 1 := by
  unfold f1Q
  rw [add_assoc]
  exact ratio_unit (mul_nonneg zero_le_two (Nat.cast_nonneg _))
    (add_nonneg (Nat.cast_nonneg _) (Nat.cast_nonneg _))

/-- **C19 (MCC ∈ [-1,1]).** `num² ≤ den²`, i.e. `|MCC| ≤ 1` wherever the denominator is
non-zero. -/
theorem mcc_sq_le_one (tp fp fn : Nat) (tn : Int) (h : 0 ≤ tn) :
    (mccNum tp fp fn tn) ^ 2 ≤ mccDenSq tp fp fn tn := by
  unfold mccNum mccDenSq
  exact mcc_core (Int.natCast_nonneg _) (Int.natCast_nonneg _) (Int.natCast_nonneg _) h

theorem accuracy_perfect (tp : Nat) (tn : Int) (h : 0 < (tp : Int) + tn) :
    accuracyQ tp 0 0 tn = 1 := by
  have : ((tp : Rat) + (tn : Rat)) ≠ 0 := by exact_mod_cast h.ne'
  simp [accuracyQ, this]

theorem f1_perfect (tp : Nat) (h : 0 < tp) : f1Q tp 0 0 = 1 := by
  have : (tp : Rat) ≠ 0 := by exact_mod_cast (Nat.pos_iff_ne_zero.mp h)
  simp [f1Q, this]

/-- with `fp = fn = 0`, `num² = den²`: MCC is exactly `±1` (and `+1` since `num = tp·tn ≥ 0`
when `tn ≥ 0`) wherever it is defined -/
theorem mcc_perfect (tp : Nat) (tn : Int) : (mccNum tp 0 0 tn) ^ 2 = mccDenSq tp 0 0 tn := by
  rw [mccNum_perfect, mccDenSq_perfect, sq]

/-! Non-vacuity.  Oracle `d e j = j + 1`: every expected point is nearest to knee 0 (distance 1).
With `t = 1`, two knees and two expected points, the first expected point takes knee 0 and the
second *competes for the same knee* and becomes a false negative — knee 1 is never tried. -/
example : cm (fun _ j => (j : Rat) + 1) 1 10 2 2 = (1, 1, 1, 7) := by decide +kernel
/-- one-to-one oracle (`d e j = |e - j|`): perfect detection, and the scores are 1 -/
example : cm (fun e j => rabs ((e : Rat) - j)) 0 10 3 3 = (3, 0, 0, 7)
    ∧ accuracyQ 3 0 0 7 = 1 ∧ f1Q 3 0 0 = 1 ∧ (mccNum 3 0 0 7) ^ 2 = mccDenSq 3 0 0 7 := by
  decide +kernel
/-- `0 < nk` is needed for TP ≤ |K|: with no knees the model's `argmin` of an empty row is 0 and
`[][0]?.getD 0 = 0 ≤ t` (the Python raises instead) -/
example : (cm (fun _ _ => 0) 0 10 0 1).1 = 1 := by decide +kernel
/-- the hypotheses of `cm_tn_nonneg` are needed: too many knees + expected points gives `tn < 0` -/
example : (cm (fun _ j => (j : Rat) + 1) 1 2 2 2).2.2.2 = -1 := by decide +kernel

end Knee
