import Knee.Lemmas.Cluster
import Knee.Lemmas.GetD
/-!
# C11 — the four 1-D linkage clusterings: labels are contiguous runs obeying the threshold rule

Model: `Knee.linkGo` / `Knee.linkLabels` (the single skeleton behind `single_linkage`,
`complete_linkage`, `centroid_linkage`, `average_linkage` of `clustering.py`), with the linkage
distance as an oracle `dist start i : Rat` (Layer S).  The `labels_*` and `count_antitone_of_*`
theorems hold for *every* oracle, hence for each of the four exact distances `distSingle`,
`distComplete`, `distCentroid`, `distAverage` (Layer N) and for any floating-point evaluation of
them.  `single_count_antitone`, `complete_count_antitone` and `centroid_is_mean` are about Layer N
itself: the number of clusters is antitone in the threshold for single and complete linkage, and
the incremental centroid update is exactly the arithmetic mean.
-/
namespace Knee

/-- **C11 (shape).** One label per point. -/
theorem labels_length (dist : Nat → Nat → Rat) (t : Rat) (n : Nat) :
    (linkLabels dist t n).length = n := by
  rw [linkLabels_eq_map, List.length_map, List.length_range]

/-- **C11 (shape).** The first point is in cluster 0. -/
theorem labels_start_at_zero (dist : Nat → Nat → Rat) (t : Rat) (n : Nat) :
    0 < n → (linkLabels dist t n)[0]? = some 0 := by
  intro hn
  rw [linkLabels_eq_map, List.getElem?_map, List.getElem?_range hn]; rfl

/-- **C11 (contiguity).** Walking left to right the label stays or increases by exactly one:
clusters are contiguous runs of points, numbered `0, 1, 2, …` without gaps. -/
theorem labels_step (dist : Nat → Nat → Rat) (t : Rat) (n : Nat) :
    ∀ i, i + 1 < n →
      (linkLabels dist t n)[i + 1]?.getD 0 = (linkLabels dist t n)[i]?.getD 0 ∨
      (linkLabels dist t n)[i + 1]?.getD 0 = (linkLabels dist t n)[i]?.getD 0 + 1 := by
  intro i hi
  rw [linkLabels_getD dist t hi, linkLabels_getD dist t (Nat.lt_of_succ_lt hi), linkState]
  split
  · exact Or.inr rfl
  · exact Or.inl rfl

/-- **C11 (contiguity).** Labels are ascending. -/
theorem labels_monotone (dist : Nat → Nat → Rat) (t : Rat) (n : Nat) :
    (linkLabels dist t n).Pairwise (· ≤ ·) := by
  rw [linkLabels_eq_map, List.pairwise_map]
  exact List.pairwise_lt_range.imp fun h => linkState_label_mono dist t (Nat.le_of_lt h)

/-- **C11 (threshold rule).** Point `i ≥ 1` starts a new cluster *exactly when* its linkage
distance to the cluster containing point `i-1` is `≥ t`.  That cluster is identified by its first
member, i.e. the first occurrence `L.idxOf (L[i-1])` of the label of point `i-1`. -/
theorem labels_rule (dist : Nat → Nat → Rat) (t : Rat) (n : Nat) :
    ∀ i, 1 ≤ i → i < n →
      let L := linkLabels dist t n
      (L[i]?.getD 0 = L[i - 1]?.getD 0 + 1 ↔ t ≤ dist (L.idxOf (L[i - 1]?.getD 0)) i) := by
  intro i h1 hi
  obtain ⟨k, rfl⟩ := Nat.exists_eq_add_of_le' h1
  obtain ⟨hle, heq, hlt⟩ := linkState_start dist t k
  -- the cluster of point `k` is identified by its start, the first point with that label
  have hidx : (linkLabels dist t n).idxOf (linkState dist t k).2 = (linkState dist t k).1 := by
    rw [linkLabels_eq_map, ← heq]
    exact idxOf_range_map (fun i => (linkState dist t i).2)
      (Nat.lt_of_le_of_lt hle (Nat.lt_of_succ_lt hi)) fun m hm => heq ▸ Nat.ne_of_lt (hlt m hm)
  simp only [Nat.add_sub_cancel, linkLabels_getD dist t hi,
    linkLabels_getD dist t (Nat.lt_of_succ_lt hi), hidx]
  rw [linkState]
  split
  next hd => exact iff_of_true rfl hd
  next hd => exact iff_of_false (Nat.ne_of_lt (Nat.lt_succ_self _)) hd

/-- **C11 (monotone count, oracle form).** If the oracle is antitone in the cluster start (a
cluster that began earlier is at least as far from point `i`), raising the threshold never increases
the number of clusters. -/
theorem count_antitone_of_antitone_start (dist : Nat → Nat → Rat) (n : Nat)
    (hanti : ∀ s s' i, s ≤ s' → s' ≤ i → i < n → dist s' i ≤ dist s i) (t t' : Rat)
    (h : t ≤ t') :
    clusterCount (linkLabels dist t' n) ≤ clusterCount (linkLabels dist t n) := by
  rcases Nat.eq_zero_or_pos n with rfl | hn
  · exact Nat.le_refl _
  · rw [clusterCount_linkLabels dist t hn, clusterCount_linkLabels dist t' hn]
    have := linkState_antitone dist t n hanti t' h (n - 1) (Nat.sub_lt hn Nat.one_pos)
    omega

/-- In particular when the oracle does not depend on the cluster start (as for single linkage). -/
theorem count_antitone_of_stateless (dist : Nat → Nat → Rat) (n : Nat)
    (hst : ∀ s s' i, dist s i = dist s' i) (t t' : Rat) (h : t ≤ t') :
    clusterCount (linkLabels dist t' n) ≤ clusterCount (linkLabels dist t n) :=
  count_antitone_of_antitone_start dist n (fun s s' i _ _ _ => le_of_eq (hst s' s i)) t t' h

/-- **C11 (single linkage).** For any x-coordinates whatsoever, a larger threshold gives at most
as many clusters. -/
theorem single_count_antitone (x : Nat → Rat) (n : Nat) (t t' : Rat) (h : t ≤ t') :
    clusterCount (singleLinkage x n t') ≤ clusterCount (singleLinkage x n t) :=
  count_antitone_of_stateless _ n (fun _ _ _ => rfl) t t' h

/-- **C11 (complete linkage).** For strictly increasing x-coordinates a larger threshold gives at
most as many clusters (greedy-stays-ahead on the cluster starts). -/
theorem complete_count_antitone (x : Nat → Rat) (n : Nat)
    (hx : ∀ i j, i < j → j < n → x i < x j) (t t' : Rat) (h : t ≤ t') :
    clusterCount (completeLinkage x n t') ≤ clusterCount (completeLinkage x n t) :=
  count_antitone_of_antitone_start _ n (distComplete_antitone_start x n (le_of_strict hx)) t t' h

/-- **C11 (centroid).** The incremental update `center := size/(size+1)·center + 1/(size+1)·xᵢ`
of `centroid_linkage`, after absorbing `k` further points into a cluster begun at `start`, has
size `k+1` and centre *exactly* the arithmetic mean of the members `start … start+k` (in ℚ), which
is what `distCentroid` uses. -/
theorem centroid_is_mean (x : Nat → Rat) (start k : Nat) :
    (centroidInc x start k).2 = k + 1 ∧
      (centroidInc x start k).1 = meanRange x start (start + k + 1) :=
  centroidInc_spec x start k

/-! Non-vacuity: the model computes the expected clusterings on a concrete input with two obvious
groups; the count really drops when the threshold grows; the hypotheses of
`complete_count_antitone` are satisfiable; the centroid update is a genuine mean. -/
example : singleLinkage (fun i => ([0, 1, 2, 10, 11] : List Rat)[i]?.getD 0) 5 (1/2)
    = [0, 0, 0, 1, 1] := by decide +kernel
example : completeLinkage (fun i => ([0, 1, 2, 10, 11] : List Rat)[i]?.getD 0) 5 (1/10)
    = [0, 0, 1, 2, 2] := by decide +kernel
example : clusterCount (completeLinkage (fun i => ([0, 1, 2, 10, 11] : List Rat)[i]?.getD 0) 5 (1/2))
    < clusterCount (completeLinkage (fun i => ([0, 1, 2, 10, 11] : List Rat)[i]?.getD 0) 5 (1/10)) := by
  decide +kernel
example : ∀ i j, i < j → j < 5 →
    (fun i => ([0, 1, 2, 10, 11] : List Rat)[i]?.getD 0) i
      < (fun i => ([0, 1, 2, 10, 11] : List Rat)[i]?.getD 0) j := by
  intro i j hij hj
  have h : ∀ j < 5, ∀ i < j, ([0, 1, 2, 10, 11] : List Rat)[i]?.getD 0
      < ([0, 1, 2, 10, 11] : List Rat)[j]?.getD 0 := by decide +kernel
  exact h j hj i hij
example : centroidInc (fun i => ([0, 1, 2, 10, 11] : List Rat)[i]?.getD 0) 1 2 = (13/3, 3) := by
  decide +kernel

end Knee
