import Knee.Lemmas.Refine
/-!
# C05 — fixed-size simplification is an exact-size, nested greedy refinement

Oracle-parametric: for EVERY distance oracle `dst` (one value per point of the range) and EVERY
ordering-score oracle `key`.  `S k := rdpFixed dst key n k` is the fixed-size result, and
`state k := fixedLoop dst key (k-2) (rinit n)` the loop state that produced it.
-/
namespace Knee

/-- **C05, exact size.** `rdp_fixed(points, k)` returns exactly `min(max(k,2), n)` indices, for every `k`. -/
theorem fixed_card (dst : Nat → Nat → List Rat) (key : Nat → Nat → Nat → Rat × Rat) (n k : Nat)
    (hn : 2 ≤ n) (hd : ∀ l r, (dst l r).length = r - l) :
    (rdpFixed dst key n k).length = min (max k 2) n := by
  rw [rdpFixed_eq_stepN, (stepN_rinit key hd hn _).2, Nat.sub_add_eq_max]

/-- **C05, nested + greedy.** For `2 ≤ k < n` the result for `k+1` is the result for `k` plus a single
new index `x`. `x` lies strictly inside one currently retained segment `[l, r)` (`l` and `r-1`
consecutive retained indices); that segment is the top of the work stack, the stack holds exactly
the retained segments that still have interior points, and the top's recorded ordering score is
maximal among them; `x = l + pickSplit (dst l r)`, where (by `pickSplit_spec`) either every
distance is below eps and the middle index is taken, or no interior point of the segment is
farther from the chord than `x`. -/
theorem fixed_nested_greedy (dst : Nat → Nat → List Rat) (key : Nat → Nat → Nat → Rat × Rat) (n k : Nat)
    (hn : 2 ≤ n) (hk : 2 ≤ k) (hkn : k < n) (hd : ∀ l r, (dst l r).length = r - l) :
    ∃ (top : Rat × Nat × Nat) (x : Nat),
      (fixedLoop dst key (k - 2) (rinit n)).stack.getLast? = some top ∧
      x = top.2.1 + pickSplit (dst top.2.1 top.2.2) ∧
      rdpFixed dst key n (k + 1) = insertSorted x (rdpFixed dst key n k) ∧
      x ∉ rdpFixed dst key n k ∧
      top.2.1 < x ∧ x + 1 < top.2.2 ∧
      (top.2.1, top.2.2) ∈ gaps (rdpFixed dst key n k) ∧
      ((fixedLoop dst key (k - 2) (rinit n)).stack.map rng).Perm (gaps (rdpFixed dst key n k)) ∧
      (∀ e ∈ (fixedLoop dst key (k - 2) (rinit n)).stack, e.1 ≤ top.1) ∧
      (((∀ v ∈ dst top.2.1 top.2.2, v < eps) ∧ pickSplit (dst top.2.1 top.2.2) = (top.2.2 - top.2.1) / 2) ∨
        (∀ j, 1 ≤ j → j + 1 < top.2.2 - top.2.1 →
          (dst top.2.1 top.2.2)[j]?.getD 0 ≤ (dst top.2.1 top.2.2)[pickSplit (dst top.2.1 top.2.2)]?.getD 0)) := by
  have hinv := (stepN_rinit key hd hn (k - 2)).1
  rw [← fixedLoop_eq_stepN] at hinv
  have hlen := fixed_card dst key n k hn hd
  have hne : (fixedLoop dst key (k - 2) (rinit n)).stack ≠ [] := by
    intro e
    have := (hinv.stack_nil_iff hn).mp e
    rw [Nat.max_eq_left hk, Nat.min_eq_left (Nat.le_of_lt hkn)] at hlen
    exact Nat.ne_of_lt hkn (hlen.symm.trans this)
  obtain ⟨⟨kk, l, r⟩, htop⟩ : ∃ top, (fixedLoop dst key (k - 2) (rinit n)).stack.getLast? = some top :=
    ⟨_, List.getLast?_eq_some_getLast hne⟩
  obtain ⟨hgap, hmax, hlt, hgt, hnot⟩ := hinv.top hd htop
  refine ⟨_, _, htop, rfl, ?_, hnot, hlt, hgt, hgap, hinv.stk, hmax, ?_⟩
  · rw [rdpFixed, Nat.sub_add_comm hk, fixedLoop_eq_stepN, stepN_succ, ← fixedLoop_eq_stepN]
    exact refineStep_reduced htop
  · have := pickSplit_spec (dst l r)
    rwa [hd] at this

/-! Non-vacuity: the hypotheses are met by a concrete oracle family on which the loop refines. -/
example : rdpFixed (fun l r => (List.range (r - l)).map fun i => if i = 2 then 1 else 0)
    (fun l _ i => ((l : Rat), ((l + i : Nat) : Rat))) 6 3 = [0, 2, 5] ∧
    rdpFixed (fun l r => (List.range (r - l)).map fun i => if i = 2 then 1 else 0)
    (fun l _ i => ((l : Rat), ((l + i : Nat) : Rat))) 6 4 = [0, 2, 4, 5] := by decide +kernel

end Knee
