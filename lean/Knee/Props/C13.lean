import Knee.Lemmas.Filters
/-!
# C13 — the worst-knee filter is a running minimum; the corner filters are complementary

Model: `Knee.worstFilter` (postprocessing.filter_worst_knees), `Knee.cornerFilter`
(postprocessing.filter_corner_knees), `Knee.cornerSelect` (postprocessing.select_corner_knees).
`h : Nat → Rat` is the height of the point with a given index, `iou : Nat → Rat` is an oracle
(Layer S) for the corner/neighbour rectangle intersection-over-union, `t` the threshold and
`n` the number of points.  Every theorem holds for all `h`, `iou`, `t`, `n`, `ks`; no
hypothesis on `ks` (duplicates allowed).
-/
namespace Knee

/-- The worst-knee filter only drops knees and never reorders them. -/
theorem worst_sublist (h : Nat → Rat) (ks : List Nat) : (worstFilter h ks).Sublist ks := by
  cases ks with
  | nil => exact List.Sublist.refl _
  | cons k ks =>
    rw [worstFilter_cons]
    exact worstGo_sublist h (h k) (k :: ks)

/-- The heights of the kept knees are non-increasing. -/
theorem worst_heights_nonincreasing (h : Nat → Rat) (ks : List Nat) :
    (worstFilter h ks).Pairwise (fun a b => h b ≤ h a) := by
  cases ks with
  | nil => exact List.Pairwise.nil
  | cons k ks =>
    rw [worstFilter_cons]
    exact worstGo_pairwise h (h k) (k :: ks)

/-- The kept knees are exactly the prefix-minimum records: `k` is kept iff some occurrence of
`k` in the input is no higher than every earlier input knee (kept or dropped). -/
theorem worst_is_running_minimum (h : Nat → Rat) (ks : List Nat) (k : Nat) :
    k ∈ worstFilter h ks ↔ ∃ pre post, ks = pre ++ k :: post ∧ ∀ j ∈ pre, h k ≤ h j := by
  cases ks with
  | nil => simp [worstFilter]
  | cons a ks =>
    rw [worstFilter_cons, mem_worstGo, and_iff_right_of_imp]
    -- the head `a` of the input is `k` itself or the first knee of `pre`
    rintro ⟨pre, post, e, hp⟩
    cases pre with
    | nil => exact (List.cons.inj e).1 ▸ Rat.le_refl
    | cons b pre => exact (List.cons.inj e).1 ▸ hp b List.mem_cons_self

/-- The first knee is always kept, and stays first. -/
theorem worst_keeps_first (h : Nat → Rat) (k : Nat) (ks : List Nat) :
    (worstFilter h (k :: ks)).head? = some k := rfl

/-- A list whose heights are already non-increasing is a fixed point of the filter. -/
theorem worst_fixpoint_of_nonincreasing (h : Nat → Rat) (ks : List Nat)
    (hp : ks.Pairwise (fun a b => h b ≤ h a)) : worstFilter h ks = ks := by
  cases ks with
  | nil => simp [worstFilter]
  | cons k ks =>
    rw [List.pairwise_cons] at hp
    simp only [worstFilter, worstGo_fix h (h k) ks hp.2 hp.1]

/-- Filtering twice is the same as filtering once. -/
theorem worst_idempotent (h : Nat → Rat) (ks : List Nat) :
    worstFilter h (worstFilter h ks) = worstFilter h ks :=
  worst_fixpoint_of_nonincreasing h _ (worst_heights_nonincreasing h ks)

/-- `select_corner_knees` filters by exactly the negation of the `filter_corner_knees`
predicate. -/
theorem corner_select_is_complement (n : Nat) (iou : Nat → Rat) (t : Rat) (ks : List Nat) :
    cornerSelect n iou t ks =
      ks.filter (fun k => !(if hasNeighbours n k then decide (iou k < t) else true)) := by
  unfold cornerSelect
  congr 1
  funext k
  cases hasNeighbours n k
  · simp
  · simp only [Bool.true_and, if_true, ← Rat.not_lt, decide_not]

/-- Filtered and selected knees together are a rearrangement of the input. -/
theorem corner_partition (n : Nat) (iou : Nat → Rat) (t : Rat) (ks : List Nat) :
    (cornerFilter n iou t ks ++ cornerSelect n iou t ks).Perm ks := by
  rw [corner_select_is_complement]
  exact List.filter_append_perm _ ks

/-- No knee is both filtered and selected. -/
theorem corner_disjoint (n : Nat) (iou : Nat → Rat) (t : Rat) (ks : List Nat) :
    ∀ k, k ∈ cornerFilter n iou t ks → k ∉ cornerSelect n iou t ks := by
  intro k hf hs
  rw [corner_select_is_complement] at hs
  simp only [cornerFilter, List.mem_filter] at hf hs
  simp [hf.2] at hs

/-- `filter_corner_knees` keeps a knee iff it lacks a neighbour or its IoU is below `t`. -/
theorem corner_filter_rule (n : Nat) (iou : Nat → Rat) (t : Rat) (ks : List Nat) (k : Nat) :
    k ∈ cornerFilter n iou t ks ↔ k ∈ ks ∧ (hasNeighbours n k = true → iou k < t) := by
  simp only [cornerFilter, List.mem_filter]
  cases hasNeighbours n k <;> simp

/-- `select_corner_knees` keeps a knee iff it has both neighbours and its IoU is at least `t`. -/
theorem corner_select_rule (n : Nat) (iou : Nat → Rat) (t : Rat) (ks : List Nat) (k : Nat) :
    k ∈ cornerSelect n iou t ks ↔ k ∈ ks ∧ hasNeighbours n k = true ∧ t ≤ iou k := by
  simp [cornerSelect, List.mem_filter]

/-- `filter_corner_knees` only drops knees and preserves their order. -/
theorem corner_filter_sublist (n : Nat) (iou : Nat → Rat) (t : Rat) (ks : List Nat) :
    (cornerFilter n iou t ks).Sublist ks := List.filter_sublist

/-- `select_corner_knees` only drops knees and preserves their order. -/
theorem corner_select_sublist (n : Nat) (iou : Nat → Rat) (t : Rat) (ks : List Nat) :
    (cornerSelect n iou t ks).Sublist ks := List.filter_sublist

/-- Filtering corner knees twice is the same as once. -/
theorem corner_filter_idempotent (n : Nat) (iou : Nat → Rat) (t : Rat) (ks : List Nat) :
    cornerFilter n iou t (cornerFilter n iou t ks) = cornerFilter n iou t ks := by
  simp [cornerFilter, List.filter_filter]

/-- Selecting corner knees twice is the same as once. -/
theorem corner_select_idempotent (n : Nat) (iou : Nat → Rat) (t : Rat) (ks : List Nat) :
    cornerSelect n iou t (cornerSelect n iou t ks) = cornerSelect n iou t ks := by
  simp [cornerSelect, List.filter_filter]

/-! Non-vacuity: the functions evaluated on concrete data.  Heights `5,3,4,3,1`: knee 2 (height
4 > 3) is dropped, the tie at knee 3 is kept.  Corner filters on 5 points with IoUs
`0, 1/2, 1/10, 3/4, 0` and threshold `2/5`: end knees 0 and 4 are always filtered-in. -/
example : worstFilter (fun k => ([5, 3, 4, 3, 1] : List Rat)[k]?.getD 0) [0, 1, 2, 3, 4]
    = [0, 1, 3, 4] := by decide +kernel
example : cornerFilter 5 (fun k => ([0, 1/2, 1/10, 3/4, 0] : List Rat)[k]?.getD 0) (2/5)
    [0, 1, 2, 3, 4] = [0, 2, 4] := by decide +kernel
example : cornerSelect 5 (fun k => ([0, 1/2, 1/10, 3/4, 0] : List Rat)[k]?.getD 0) (2/5)
    [0, 1, 2, 3, 4] = [1, 3] := by decide +kernel

end Knee
