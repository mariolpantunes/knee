import Knee.Lemmas.GetD
import Knee.Props.C18
/-!
# C18U — the lower / upper hull chain is UNIQUE

The three properties of C18 (strictly increasing index chain from `0` to `n - 1`, strict turns, every input
point on the right side of every edge line) characterise the chain on a curve with strictly increasing x: the
routine returns exactly the brute-force hull chain.  The upper twins follow through the reflection.
Positions in a chain are read with `c[i]?.getD 0`, exactly as in `C18.lean`.
-/
namespace Knee

/-- `c` is a *lower hull chain* of the first `n` points of the curve `pt`:
(i) strictly increasing indices from `0` to `n - 1`, (ii) strictly counter-clockwise turns at every
interior vertex, (iii) every point `k < n` on or above the line through every chain edge.
This is the brute-force specification of the output of `graham_scan_lower`. -/
structure LowerChain (pt : Nat → P2) (n : Nat) (c : List Nat) : Prop where
  incr : c.Pairwise (· < ·)
  head : c.head? = some 0
  last : c.getLast? = some (n - 1)
  turns : ∀ i, i + 2 < c.length →
    0 < ccw (pt (c[i]?.getD 0)) (pt (c[i + 1]?.getD 0)) (pt (c[i + 2]?.getD 0))
  supports : ∀ k, k < n → ∀ i, i + 1 < c.length →
    0 ≤ ccw (pt (c[i]?.getD 0)) (pt (c[i + 1]?.getD 0)) (pt k)

/-- `c` is an *upper hull chain*: as `LowerChain` with strictly clockwise turns and every point on
or below every chain edge line.  Brute-force specification of the output of `graham_scan_upper`. -/
structure UpperChain (pt : Nat → P2) (n : Nat) (c : List Nat) : Prop where
  incr : c.Pairwise (· < ·)
  head : c.head? = some 0
  last : c.getLast? = some (n - 1)
  turns : ∀ i, i + 2 < c.length →
    ccw (pt (c[i]?.getD 0)) (pt (c[i + 1]?.getD 0)) (pt (c[i + 2]?.getD 0)) < 0
  supports : ∀ k, k < n → ∀ i, i + 1 < c.length →
    ccw (pt (c[i]?.getD 0)) (pt (c[i + 1]?.getD 0)) (pt k) ≤ 0

/-- a tail of a lower chain, in structural form: `turns.1` is the turn at the second vertex, `sup.1` the support of
the first edge, `sup.2.1` of the second -/
private structure ChainTail (pt : Nat → P2) (n : Nat) (l : List Nat) : Prop where
  incr : l.Pairwise (· < ·)
  last : l.getLast? = some (n - 1)
  turns : Adj3 (fun x y z => 0 < ccw (pt x) (pt y) (pt z)) l
  sup : Adj2 (fun x y => ∀ k, k < n → 0 ≤ ccw (pt x) (pt y) (pt k)) l

private theorem ChainTail.tail {pt : Nat → P2} {n x y : Nat} {l : List Nat}
    (h : ChainTail pt n (x :: y :: l)) : ChainTail pt n (y :: l) :=
  ⟨(List.pairwise_cons.1 h.incr).2, by rw [← List.getLast?_cons_cons]; exact h.last, h.turns.tail, h.sup.tail⟩

private theorem ChainTail.next {pt : Nat → P2} {n u v : Nat} {r : List Nat}
    (h : ChainTail pt n (u :: v :: r)) : u < v ∧ v ≤ n - 1 :=
  ⟨(List.pairwise_cons.1 h.incr).1 v (by simp), le_getLast_of_pairwise h.incr h.last v (by simp)⟩

private theorem ChainTail.single {pt : Nat → P2} {n u : Nat} (h : ChainTail pt n [u]) : u = n - 1 :=
  Option.some.inj h.last

private theorem LowerChain.tail {pt : Nat → P2} {n : Nat} {c : List Nat} (h : LowerChain pt n c) :
    ChainTail pt n c :=
  ⟨h.incr, h.last, (Adj3.iff_getD c).2 h.turns,
    (Adj2.iff_getD c).2 fun i hi k hk => h.supports k hk i hi⟩

section Unique
variable {pt : Nat → P2} {n : Nat} (hx : ∀ i j, i < j → j < n → (pt i).1 < (pt j).1)
include hx

private theorem next_not_lt {u v w : Nat} {r r' : List Nat} (h : ChainTail pt n (u :: v :: r))
    (h' : ChainTail pt n (u :: w :: r')) : ¬ v < w := by
  intro hvw
  obtain ⟨huv, _⟩ := h.next
  obtain ⟨_, hwn⟩ := h'.next
  have hw : w < n := by omega
  have hv : v < n := hvw.trans hw
  -- each chain supports the next vertex of the other: `u, v, w` are collinear
  have s2 := h'.sup.1 v hv
  rw [ccw_swap] at s2
  have hcol : ccw (pt u) (pt v) (pt w) = 0 := le_antisymm (neg_nonneg.1 s2) (h.sup.1 w hw)
  match r, h with
  | [], h => exact absurd h.tail.single (Nat.ne_of_lt (Nat.lt_of_lt_of_le hvw hwn))
  | t :: r, h =>
    -- the first chain turns up at `v` and yet has `w` on or above its next edge
    exact absurd (h.sup.2.1 w hw) (not_le.2 (ccw_collinear_break _ _ _ _ (hx u v huv hv)
      (hx v w hvw hw) hcol h.turns.1))

private theorem ch_unique : ∀ (l l' : List Nat) (u : Nat), ChainTail pt n (u :: l) → ChainTail pt n (u :: l') →
    l = l'
  | [], [], _, _, _ => rfl
  | [], _ :: _, _, h, h' => absurd h'.next.2 (Nat.not_le.2 (h.single ▸ h'.next.1))
  | _ :: _, [], _, h, h' => absurd h.next.2 (Nat.not_le.2 (h'.single ▸ h.next.1))
  | v :: r, w :: r', u, h, h' => by
    obtain rfl : v = w := Nat.le_antisymm (Nat.le_of_not_lt (next_not_lt hx h' h))
      (Nat.le_of_not_lt (next_not_lt hx h h'))
    rw [ch_unique r r' v h.tail h'.tail]

/-- **C18 (uniqueness).** On a curve with strictly increasing x, any two index lists that
(i) increase strictly from `0` to `n - 1`, (ii) turn strictly counter-clockwise at every interior
vertex and (iii) have every point on or above every edge line are equal: the specification of
`graham_scan_lower`'s output in `C18.lean` determines that output completely. -/
theorem lowerChain_unique {c c' : List Nat} (h : LowerChain pt n c) (h' : LowerChain pt n c') :
    c = c' := by
  obtain ⟨l, rfl⟩ := List.head?_eq_some_iff.1 h.head
  obtain ⟨l', rfl⟩ := List.head?_eq_some_iff.1 h'.head
  rw [ch_unique hx l l' 0 h.tail h'.tail]

end Unique

/-- **C18 (existence).** For `n ≥ 2` points with strictly increasing x the list returned by
`graham_scan_lower` is a lower hull chain (this bundles `hullLower_indices`,
`hullLower_strict_turns`, `hullLower_supports`). -/
theorem hullLower_lowerChain (pt : Nat → P2) (n : Nat) (hn : 2 ≤ n)
    (hx : ∀ i j, i < j → j < n → (pt i).1 < (pt j).1) : LowerChain pt n (hullLower pt n) := by
  obtain ⟨h1, h2, h3, _⟩ := hullLower_indices pt n hn
  exact ⟨h1, h2, h3, hullLower_strict_turns pt n, hullLower_supports pt n hn hx⟩

/-- **C18 (the routine returns exactly the brute-force chain).** For `n ≥ 2` points with strictly
increasing x, every index list with properties (i)–(iii) is the list returned by
`graham_scan_lower`. -/
theorem hullLower_is_the_chain (pt : Nat → P2) (n : Nat) (hn : 2 ≤ n)
    (hx : ∀ i j, i < j → j < n → (pt i).1 < (pt j).1) {c : List Nat} (h : LowerChain pt n c) :
    c = hullLower pt n :=
  lowerChain_unique hx h (hullLower_lowerChain pt n hn hx)

/-- **C18 (characterisation).** `graham_scan_lower`'s output is the unique lower hull chain. -/
theorem hullLower_iff (pt : Nat → P2) (n : Nat) (hn : 2 ≤ n)
    (hx : ∀ i j, i < j → j < n → (pt i).1 < (pt j).1) (c : List Nat) :
    LowerChain pt n c ↔ c = hullLower pt n :=
  ⟨hullLower_is_the_chain pt n hn hx, fun e => e ▸ hullLower_lowerChain pt n hn hx⟩

theorem upperChain_iff_reflect (pt : Nat → P2) (n : Nat) (c : List Nat) :
    UpperChain pt n c ↔ LowerChain (fun k => ((pt k).1, -(pt k).2)) n c := by
  show _ ↔ LowerChain (reflY pt) n c
  constructor
  · rintro ⟨h1, h2, h3, h4, h5⟩
    exact ⟨h1, h2, h3, by simpa only [ccw_reflY, neg_pos] using h4,
      by simpa only [ccw_reflY, neg_nonneg] using h5⟩
  · rintro ⟨h1, h2, h3, h4, h5⟩
    exact ⟨h1, h2, h3, by simpa only [ccw_reflY, neg_pos] using h4,
      by simpa only [ccw_reflY, neg_nonneg] using h5⟩

/-- **C18 (uniqueness, upper).** On a curve with strictly increasing x, any two index lists that
increase strictly from `0` to `n - 1`, turn strictly clockwise at every interior vertex and have
every point on or below every edge line are equal. -/
theorem upperChain_unique {pt : Nat → P2} {n : Nat}
    (hx : ∀ i j, i < j → j < n → (pt i).1 < (pt j).1) {c c' : List Nat}
    (h : UpperChain pt n c) (h' : UpperChain pt n c') : c = c' :=
  lowerChain_unique (pt := fun k => ((pt k).1, -(pt k).2)) hx
    ((upperChain_iff_reflect pt n c).1 h) ((upperChain_iff_reflect pt n c').1 h')

/-- **C18 (existence, upper).** `graham_scan_upper` returns an upper hull chain. -/
theorem hullUpper_upperChain (pt : Nat → P2) (n : Nat) (hn : 2 ≤ n)
    (hx : ∀ i j, i < j → j < n → (pt i).1 < (pt j).1) : UpperChain pt n (hullUpper pt n) := by
  rw [upperChain_iff_reflect, hullUpper_eq_reflect]
  exact hullLower_lowerChain _ n hn hx

/-- **C18 (the routine returns exactly the brute-force chain, upper).** For `n ≥ 2` points with
strictly increasing x, every index list with the upper-chain properties is the list returned by
`graham_scan_upper`. -/
theorem hullUpper_is_the_chain (pt : Nat → P2) (n : Nat) (hn : 2 ≤ n)
    (hx : ∀ i j, i < j → j < n → (pt i).1 < (pt j).1) {c : List Nat} (h : UpperChain pt n c) :
    c = hullUpper pt n :=
  upperChain_unique hx h (hullUpper_upperChain pt n hn hx)

/-- **C18 (characterisation, upper).** `graham_scan_upper`'s output is the unique upper hull
chain. -/
theorem hullUpper_iff (pt : Nat → P2) (n : Nat) (hn : 2 ≤ n)
    (hx : ∀ i j, i < j → j < n → (pt i).1 < (pt j).1) (c : List Nat) :
    UpperChain pt n c ↔ c = hullUpper pt n :=
  ⟨hullUpper_is_the_chain pt n hn hx, fun e => e ▸ hullUpper_upperChain pt n hn hx⟩

/-! ### non-vacuity: the hypotheses hold on concrete curves, by kernel computation -/

private def curveU (l : List P2) : Nat → P2 := fun k => l.getD k (0, 0)

/-- a bowl with a bump at index 2 and a point (index 4) exactly on the edge 3–5 -/
private def bowl : List P2 := [(0, 4), (1, 1), (2, 2), (3, 0), (4, 1), (5, 2), (6, 6)]

/-- strictly increasing x on the bowl -/
example : ∀ i j, i < j → j < 7 → (curveU bowl i).1 < (curveU bowl j).1 := by
  intro i j hij hj
  have : ∀ j, j < 7 → ∀ i, i < j → (curveU bowl i).1 < (curveU bowl j).1 := by decide +kernel
  exact this j hj i hij

/-- `[0, 1, 3, 5, 6]` satisfies (i)–(iii) on the bowl: the bump (2) and the collinear point (4)
are not vertices -/
example : LowerChain (curveU bowl) 7 [0, 1, 3, 5, 6] where
  incr := by decide +kernel
  head := by decide +kernel
  last := by decide +kernel
  turns := by
    intro i hi
    have : ∀ i, i < 3 → 0 < ccw (curveU bowl ([0, 1, 3, 5, 6][i]?.getD 0))
        (curveU bowl ([0, 1, 3, 5, 6][i + 1]?.getD 0))
        (curveU bowl ([0, 1, 3, 5, 6][i + 2]?.getD 0)) := by decide +kernel
    exact this i (by simp at hi; omega)
  supports := by
    intro k hk i hi
    have : ∀ k, k < 7 → ∀ i, i < 4 → 0 ≤ ccw (curveU bowl ([0, 1, 3, 5, 6][i]?.getD 0))
        (curveU bowl ([0, 1, 3, 5, 6][i + 1]?.getD 0)) (curveU bowl k) := by decide +kernel
    exact this k hk i (by simp at hi; omega)

/-- and it is what the model of `graham_scan_lower` computes -/
example : hullLower (curveU bowl) 7 = [0, 1, 3, 5, 6] := by decide +kernel

/-- the collinear point is rejected by (ii): `[0, 1, 3, 4, 5, 6]` has a straight turn at 4, so the
strictness in (ii) is what makes the chain unique -/
example : ¬ LowerChain (curveU bowl) 7 [0, 1, 3, 4, 5, 6] := by
  intro h
  have := h.turns 2 (by decide)
  revert this
  decide +kernel

/-- upper chain of the bowl: only the two ends -/
example : UpperChain (curveU bowl) 7 [0, 6] where
  incr := by decide +kernel
  head := by decide +kernel
  last := by decide +kernel
  turns := by intro i hi; simp at hi
  supports := by
    intro k hk i hi
    have : ∀ k, k < 7 → ∀ i, i < 1 → ccw (curveU bowl ([0, 6][i]?.getD 0))
        (curveU bowl ([0, 6][i + 1]?.getD 0)) (curveU bowl k) ≤ 0 := by decide +kernel
    exact this k hk i (by simp at hi; omega)

example : hullUpper (curveU bowl) 7 = [0, 6] := by decide +kernel

end Knee
