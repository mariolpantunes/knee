import Knee.Lemmas.GetD
import Knee.Props.C18H
/-!
# C18G — `graham_scan` returns the convex hull of a point set in general position

Model: `Knee.grahamScan` (convex_hull.graham_scan): pivot = lexicographically smallest point
(lowest x, then lowest y), the other points sorted by `_compare_points` (clockwise first), scan
with `while len(stack) > 1 and ccw(stack[-2], stack[-1], p) >= 0: pop`.  Orientation signs are
exact in ℚ.

Hypotheses: `pts.Nodup`, `3 ≤ pts.length`, and `GenPos pts` (no three distinct input points are
collinear).  With `H := grahamScan pts` and `P k := pts[k]?.getD (0, 0)`: `H` is a strictly convex
clockwise polygon on input points that contains every input point, i.e. exactly the hull vertices; input
points not in `H` are strictly inside.
-/
namespace Knee

/-- Every point that is lexicographically at least `p0` and different from it lies strictly to the right of
`p0` or straight above it. -/
theorem pivot_rightOf (p0 q : P2) (h : LexLe p0 q) (hne : p0 ≠ q) : RightOf p0 q := h.rightOf hne

/-- "Strictly clockwise of, about `p0`" (`ccw p0 a b < 0`) is irreflexive. -/
theorem angLt_irrefl (p0 a : P2) : ¬ ccw p0 a a < 0 := by
  rw [ccw_self_right]; exact lt_irrefl _

/-- "Strictly clockwise of, about `p0`" is asymmetric. -/
theorem angLt_asymm (p0 a b : P2) (h : ccw p0 a b < 0) : ¬ ccw p0 b a < 0 := by
  rw [ccw_swap]; exact lt_asymm (neg_pos.2 h)

/-- "Strictly clockwise of, about `p0`" is total on points not collinear with `p0`. -/
theorem angLt_total (p0 a b : P2) (h : ccw p0 a b ≠ 0) : ccw p0 a b < 0 ∨ ccw p0 b a < 0 := by
  rcases lt_or_gt_of_ne h with h | h
  · exact Or.inl h
  · right; rw [ccw_swap]; exact neg_neg_of_pos h

/-- "Strictly clockwise of, about `p0`" is transitive on the right half-plane of `p0` (not on the whole plane). -/
theorem angLt_trans (p0 a b c : P2) (ha : RightOf p0 a) (hb : RightOf p0 b) (hc : RightOf p0 c)
    (h1 : ccw p0 a b < 0) (h2 : ccw p0 b c < 0) : ccw p0 a c < 0 :=
  ang_trans p0 a b c ha hb hc h1 h2

/-- When `a`, `b` are not collinear with `p0`, `_compare_points` decides "strictly clockwise of, about `p0`". -/
theorem angBefore_eq (p0 a b : P2) (h : ccw p0 a b ≠ 0) : angBefore p0 a b = true ↔ ccw p0 a b < 0 :=
  (angBefore_iff p0 a b).trans ⟨fun h' => h'.resolve_right fun h0 => h h0.1, Or.inl⟩

/-- **C18G (sort).** For points in the right half-plane of the pivot, no two of them collinear with
the pivot, the angular sort returns a permutation that is pairwise strictly clockwise. -/
theorem sortAng_sorted (p0 : P2) (l : List (P2 × Nat)) (hr : ∀ q ∈ l, RightOf p0 q.1)
    (hne : l.Pairwise (fun a b => ccw p0 a.1 b.1 ≠ 0)) :
    (sortAng p0 l).Perm l ∧ (sortAng p0 l).Pairwise (fun a b => ccw p0 a.1 b.1 < 0) := by
  have hne' : (sortAng p0 l).Pairwise (fun a b => ccw p0 a.1 b.1 ≠ 0) :=
    ((sortAng_perm p0 l).pairwise_iff fun {a b} h => by rw [ccw_swap]; exact neg_ne_zero.2 h).2 hne
  exact ⟨sortAng_perm p0 l,
    ((sortAng_pairwise p0 l hr).and hne').imp fun ⟨h, h0⟩ => (angBefore_eq p0 _ _ h0).1 h⟩

section Scan
variable (pts : List P2) (hnd : pts.Nodup) (h3 : 3 ≤ pts.length) (hgp : GenPos pts)
include hnd h3 hgp

-- C18H proves the next three statements without `hgp`: the linter says so at each

/-- **C18G (pivot first).** The output starts at the index of the lexicographically smallest
input point. -/
theorem grahamScan_head :
    ∃ i0, (grahamScan pts).head? = some i0 ∧ i0 < pts.length ∧
      ∀ k, k < pts.length → LexLe (pts[i0]?.getD (0, 0)) (pts[k]?.getD (0, 0)) :=
  grahamScanD_head pts hnd h3

/-- **C18G (support, closed polygon).** Every input point lies on or to the right of every
directed edge of the closed output polygon `H ++ [H[0]]`. -/
theorem grahamScan_supports_cyclic :
    let H := grahamScan pts
    let C := H ++ [H[0]?.getD 0]
    let P := fun k => pts[k]?.getD (0, 0)
    ∀ k, k < pts.length → ∀ i, i + 1 < C.length →
      ccw (P (C[i]?.getD 0)) (P (C[i + 1]?.getD 0)) (P k) ≤ 0 :=
  grahamScanD_supports_cyclic pts hnd h3

/-- **C18G (support).** Every input point lies on or to the right of every directed output edge. -/
theorem grahamScan_supports :
    let H := grahamScan pts
    let P := fun k => pts[k]?.getD (0, 0)
    ∀ k, k < pts.length → ∀ i, i + 1 < H.length →
      ccw (P (H[i]?.getD 0)) (P (H[i + 1]?.getD 0)) (P k) ≤ 0 := by
  intro H P k hk i hi
  have := grahamScanD_supports_edge pts hnd h3 (Nat.lt_of_succ_lt hi) hk
  rwa [Nat.mod_eq_of_lt hi] at this

/-- **C18G (size).** In general position the output has at least three vertices. -/
theorem grahamScan_length : 3 ≤ (grahamScan pts).length := by
  have h1 := Nat.lt_of_succ_lt h3
  have h0 := Nat.lt_of_succ_lt h1
  exact (grahamScanD_length pts hnd h3).2
    ⟨0, 1, 2, h0, h1, h3, hgp 0 1 2 h0 h1 h3 (by decide) (by decide) (by decide)⟩

/-- **C18G (support, closing edge).** Every input point lies on or to the right of the edge from
the last output point back to the pivot. -/
theorem grahamScan_supports_closing :
    let H := grahamScan pts
    let P := fun k => pts[k]?.getD (0, 0)
    ∀ k, k < pts.length →
      ccw (P (H[H.length - 1]?.getD 0)) (P (H[0]?.getD 0)) (P k) ≤ 0 := by
  intro H P k hk
  have hlen := grahamScan_length pts hnd h3 hgp
  have h0 := Nat.zero_lt_of_lt hlen
  have := grahamScanD_supports_edge pts hnd h3 (Nat.sub_lt h0 Nat.one_pos) hk
  rwa [Nat.sub_add_cancel h0, Nat.mod_self] at this

/-- In general position a point other than the two ends of the edge from position `i` to the next
position of the cycle lies strictly to the right of it. -/
theorem grahamScan_edge_strict {i k : Nat} (hi : i < (grahamScan pts).length) (hk : k < pts.length)
    (hk1 : k ≠ (grahamScan pts)[i]?.getD 0)
    (hk2 : k ≠ (grahamScan pts)[(i + 1) % (grahamScan pts).length]?.getD 0) :
    ccw (pts[(grahamScan pts)[i]?.getD 0]?.getD (0, 0))
      (pts[(grahamScan pts)[(i + 1) % (grahamScan pts).length]?.getD 0]?.getD (0, 0))
      (pts[k]?.getD (0, 0)) < 0 := by
  have hlen := grahamScan_length pts hnd h3 hgp
  have hsound := grahamScan_nodup_bounded pts
  have hj := Nat.mod_lt (i + 1) (Nat.zero_lt_of_lt hi)
  exact lt_of_le_of_ne (grahamScanD_supports_edge pts hnd h3 hi hk) (hgp _ _ _ (hsound.2 _ (getD_mem _ hi)) (hsound.2 _ (getD_mem _ hj)) hk
    (nodup_getD_ne hsound.1 hi hj (succ_mod_ne (Nat.le_of_succ_le hlen) hi).symm) hk1.symm hk2.symm)

/-- **C18G (strict support).** Every input point other than the two end points of an edge of the
closed output polygon lies strictly to the right of it. -/
theorem grahamScan_supports_strict :
    let H := grahamScan pts
    let C := H ++ [H[0]?.getD 0]
    let P := fun k => pts[k]?.getD (0, 0)
    ∀ k, k < pts.length → ∀ i, i + 1 < C.length → k ≠ C[i]?.getD 0 → k ≠ C[i + 1]?.getD 0 →
      ccw (P (C[i]?.getD 0)) (P (C[i + 1]?.getD 0)) (P k) < 0 := by
  intro H C P k hk i hi hk1 hk2
  obtain ⟨hiH, e1, e2⟩ := cycle_getD (grahamScan pts) hi
  simp only [H, C, P, e1, e2] at hk1 hk2 ⊢
  exact grahamScan_edge_strict pts hnd h3 hgp hiH hk hk1 hk2

/-- **C18G (strict turns).** Consecutive output edges turn strictly clockwise. -/
theorem grahamScan_strict_turns :
    let H := grahamScan pts
    let P := fun k => pts[k]?.getD (0, 0)
    ∀ i, i + 2 < H.length →
      ccw (P (H[i]?.getD 0)) (P (H[i + 1]?.getD 0)) (P (H[i + 2]?.getD 0)) < 0 := by
  intro H P i hi
  have hsound := grahamScan_nodup_bounded pts
  have hi1 : i + 1 < (grahamScan pts).length := Nat.lt_of_succ_lt hi
  have := grahamScan_edge_strict pts hnd h3 hgp (Nat.lt_of_succ_lt hi1) (hsound.2 _ (getD_mem _ hi))
  rw [Nat.mod_eq_of_lt hi1] at this
  exact this (nodup_getD_ne hsound.1 hi (Nat.lt_of_succ_lt hi1) (Nat.ne_of_gt (Nat.lt_add_of_pos_right Nat.two_pos)))
    (nodup_getD_ne hsound.1 hi hi1 (Nat.ne_of_gt (Nat.lt_succ_self _)))

/-- **C18G (interior).** Input points that are not output vertices lie strictly inside the output
polygon. -/
theorem grahamScan_interior :
    let H := grahamScan pts
    let C := H ++ [H[0]?.getD 0]
    let P := fun k => pts[k]?.getD (0, 0)
    ∀ k, k < pts.length → k ∉ H → ∀ i, i + 1 < C.length →
      ccw (P (C[i]?.getD 0)) (P (C[i + 1]?.getD 0)) (P k) < 0 := by
  intro H C P k hk hkH i hi
  obtain ⟨hiH, e1, e2⟩ := cycle_getD (grahamScan pts) hi
  have hj := Nat.mod_lt (i + 1) (Nat.zero_lt_of_lt hiH)
  refine grahamScan_supports_strict pts hnd h3 hgp k hk i hi ?_ ?_
  · rintro rfl
    exact hkH (by simp only [H, e1]; exact getD_mem _ hiH)
  · rintro rfl
    exact hkH (by simp only [H, e2]; exact getD_mem _ hj)

/-- **C18G (hull vertices).** An input point lies on the boundary of the output polygon iff it is
one of its vertices: the output is exactly the set of hull vertices. -/
theorem grahamScan_is_hull :
    let H := grahamScan pts
    let C := H ++ [H[0]?.getD 0]
    let P := fun k => pts[k]?.getD (0, 0)
    ∀ k, k < pts.length →
      (k ∈ H ↔ ∃ i, i + 1 < C.length ∧ ccw (P (C[i]?.getD 0)) (P (C[i + 1]?.getD 0)) (P k) = 0) := by
  intro H C P k hk
  constructor
  · intro hmem
    obtain ⟨i, hi, e⟩ := List.getElem_of_mem hmem
    have hi' : i + 1 < C.length := by
      simpa only [C, List.length_append, List.length_singleton, Nat.add_lt_add_iff_right] using hi
    refine ⟨i, hi', ?_⟩
    have : C[i]?.getD 0 = k := by
      rw [(cycle_getD (grahamScan pts) hi').2.1, List.getElem?_eq_getElem hi, Option.getD_some, e]
    rw [this, ccw_self_mid]
  · rintro ⟨i, hi, e⟩
    by_contra hkH
    exact absurd e (ne_of_lt (grahamScan_interior pts hnd h3 hgp k hk hkH i hi))

/-- **C18G (strict turns, closing).** The two turns around the closing edge are strictly clockwise
as well: the closed output polygon is strictly convex. -/
theorem grahamScan_strict_turns_closing :
    let H := grahamScan pts
    let P := fun k => pts[k]?.getD (0, 0)
    ccw (P (H[H.length - 2]?.getD 0)) (P (H[H.length - 1]?.getD 0)) (P (H[0]?.getD 0)) < 0 ∧
      ccw (P (H[H.length - 1]?.getD 0)) (P (H[0]?.getD 0)) (P (H[1]?.getD 0)) < 0 := by
  intro H P
  have hsound := grahamScan_nodup_bounded pts
  obtain ⟨m, hm⟩ := Nat.exists_eq_add_of_le' (grahamScan_length pts hnd h3 hgp)
  have hm2 : m + 2 < (grahamScan pts).length := hm ▸ Nat.lt_succ_self _
  have hm1 := Nat.lt_of_succ_lt hm2
  have h1 : 1 < (grahamScan pts).length := hm ▸ Nat.succ_lt_succ (Nat.succ_pos _)
  have h0 := Nat.zero_lt_of_lt h1
  have t2 := grahamScan_edge_strict pts hnd h3 hgp hm1 (hsound.2 _ (getD_mem _ h0))
    (nodup_getD_ne hsound.1 h0 hm1 (Nat.succ_ne_zero m).symm)
  have t1 := grahamScan_edge_strict pts hnd h3 hgp hm2 (hsound.2 _ (getD_mem _ h1))
    (nodup_getD_ne hsound.1 h1 hm2 (Nat.ne_of_lt (Nat.succ_lt_succ (Nat.succ_pos m))))
  rw [hm, Nat.mod_eq_of_lt (Nat.lt_succ_self _)] at t2
  rw [hm, Nat.mod_self] at t1
  simp only [H, P, hm]
  exact ⟨t2 (nodup_getD_ne hsound.1 h0 hm2 (Nat.succ_ne_zero _).symm),
    t1 (nodup_getD_ne hsound.1 h1 h0 Nat.one_ne_zero)⟩

end Scan

/-- At least three points in general position are distinct: the hypothesis `pts.Nodup` of the theorems above
follows from the other two. -/
theorem genPos_nodup (pts : List P2) (h3 : 3 ≤ pts.length) (hgp : GenPos pts) : pts.Nodup := by
  refine List.pairwise_iff_getElem.2 ?_
  intro i j hi hj hij e
  obtain ⟨k, hk, hki, hkj⟩ : ∃ k, k < pts.length ∧ i ≠ k ∧ j ≠ k := by
    rcases Nat.eq_zero_or_pos i with rfl | hi0
    · rcases eq_or_ne j 1 with rfl | hj1
      · exact ⟨2, h3, by decide, by decide⟩
      · exact ⟨1, Nat.lt_of_succ_lt h3, by decide, hj1⟩
    · exact ⟨0, Nat.zero_lt_of_lt h3, Nat.ne_of_gt hi0, Nat.ne_of_gt (hi0.trans hij)⟩
  have := hgp i j k hi hj hk (Nat.ne_of_lt hij) hki hkj
  simp only [List.getElem?_eq_getElem hi, List.getElem?_eq_getElem hj, Option.getD_some, e] at this
  exact this (ccw_self_left _ _)

/-! Non-vacuity: a concrete point set (given in non-sorted order, with one interior point) satisfies
every hypothesis, and the model computes the clockwise hull starting at the pivot. -/

private def ex1 : List P2 := [(2, 2), (4, 1), (3, 4), (0, 0), (1, 3)]

example : grahamScan ex1 = [3, 4, 2, 1] := by decide +kernel
example : grahamScan [(0, 0), (4, 1), (3, 4), (1, 3), (2, 2)] = [0, 3, 2, 1] := by decide +kernel
example : ex1.Nodup ∧ 3 ≤ ex1.length := by decide +kernel
example : GenPos ex1 := by
  have h : ∀ i < 5, ∀ j < 5, ∀ k < 5, (i ≠ j ∧ i ≠ k ∧ j ≠ k) →
      ccw (ex1[i]?.getD (0, 0)) (ex1[j]?.getD (0, 0)) (ex1[k]?.getD (0, 0)) ≠ 0 := by decide +kernel
  intro i j k hi hj hk h1 h2 h3
  exact h i hi j hj k hk ⟨h1, h2, h3⟩
/-- the interior point (index 0) is strictly right of all four edges of the closed polygon -/
example : ∀ i, i < 4 →
    ccw (ex1[([3, 4, 2, 1, 3] : List Nat)[i]?.getD 0]?.getD (0, 0))
      (ex1[([3, 4, 2, 1, 3] : List Nat)[i + 1]?.getD 0]?.getD (0, 0)) (ex1[0]?.getD (0, 0)) < 0 := by
  decide +kernel
/-- a collinear triple violates the hypothesis (C18H has what the scan returns on it) -/
example : ¬ GenPos [(0, 0), (1, 1), (2, 2)] := by
  intro h
  exact h 0 1 2 (by decide) (by decide) (by decide) (by decide) (by decide) (by decide)
    (by decide +kernel)

end Knee
