import Knee.Lemmas.Metrics
import Mathlib.Algebra.Order.Field.Basic
/-!
# C16 — algebraic sanity of the regression metrics (`metrics.py`, `linear_fit.py`)

About the definitions of `Knee/Model/Metrics.lean` (conventions there).  `List.zipWith` truncates to the
shorter list, so no statement below needs an equal-length hypothesis.
-/
namespace Knee

theorem rss_symm (y yh : List Rat) : rssQ y yh = rssQ yh y :=
  congrArg List.sum (List.zipWith_comm_of_comm fun a b => by ring)

theorem mse_symm (y yh : List Rat) : mseQ y yh = mseQ yh y :=
  congrArg meanQ (List.zipWith_comm_of_comm fun a b => by ring)

theorem smape_symm (y yh : List Rat) : smapeQ y yh = smapeQ yh y :=
  congrArg meanQ (List.zipWith_comm_of_comm fun a b => by
    rw [rabs_sub_comm b a, add_comm (rabs a) (rabs b)])

theorem rss_nonneg (y yh : List Rat) : 0 ≤ rssQ y yh :=
  zipWith_sum_nonneg (fun _ _ => mul_self_nonneg _) y yh

theorem mse_nonneg (y yh : List Rat) : 0 ≤ mseQ y yh :=
  meanQ_zipWith_nonneg (fun _ _ => mul_self_nonneg _) y yh

theorem rmspeSq_nonneg (y yh : List Rat) : 0 ≤ rmspeSq y yh :=
  meanQ_zipWith_nonneg rmspe_term_nonneg y yh

theorem rmsleSq_nonneg (lg : Rat → Rat) (y yh : List Rat) : 0 ≤ rmsleSq lg y yh :=
  meanQ_zipWith_nonneg (fun _ _ => mul_self_nonneg _) y yh

theorem rpd_nonneg (y yh : List Rat) : 0 ≤ rpdQ y yh :=
  meanQ_zipWith_nonneg (fun _ _ => rabs_nonneg _) y yh

/-- `0 ≤ SMAPE`: every denominator `|y|+|ŷ|+eps` is positive -/
theorem smape_nonneg (y yh : List Rat) : 0 ≤ smapeQ y yh :=
  meanQ_zipWith_nonneg smape_term_nonneg y yh

theorem rss_self (y : List Rat) : rssQ y y = 0 :=
  zipWith_self_sum_zero (fun a => by simp) y

theorem mse_self (y : List Rat) : mseQ y y = 0 :=
  meanQ_zipWith_self (fun a => by simp) y

theorem rmspeSq_self (y : List Rat) : rmspeSq y y = 0 :=
  meanQ_zipWith_self (fun a => by simp) y

theorem rmsleSq_self (lg : Rat → Rat) (y : List Rat) : rmsleSq lg y y = 0 :=
  meanQ_zipWith_self (fun a => by simp) y

theorem rpd_self (y : List Rat) : rpdQ y y = 0 :=
  meanQ_zipWith_self (fun a => by simp [rabs_zero]) y

theorem smape_self (y : List Rat) : smapeQ y y = 0 :=
  meanQ_zipWith_self (fun a => by simp [rabs_zero]) y

/-- `SMAPE ≤ 2`: each term is `2|ŷ−y| / (|y|+|ŷ|+eps) ≤ 2` by the triangle inequality -/
theorem smape_le_two (y yh : List Rat) : smapeQ y yh ≤ 2 :=
  meanQ_le _ 2 zero_le_two (zipWith_sum_le smape_term_le_two y yh)

theorem tss_nonneg (y : List Rat) : 0 ≤ tssQ y :=
  sum_map_nonneg fun _ _ => mul_self_nonneg _

theorem r2_le_one (y yh : List Rat) : r2Q y yh ≤ 1 := by
  unfold r2Q
  split
  · exact sub_le_self 1 (rss_nonneg y yh)
  · exact sub_le_self 1 (div_nonneg (rss_nonneg y yh) (tss_nonneg y))

theorem r2_self (y : List Rat) : r2Q y y = 1 := by
  unfold r2Q
  rw [rss_self]
  split <;> simp

theorem adjust_def (n : Nat) (r2 : Rat) :
    adjustQ n r2 = 1 - (1 - r2) * (((n : Rat) - 1) / ((n : Rat) - 2)) := rfl

/-- with at least 3 samples the adjustment never increases an `R² ≤ 1`
(the correction factor `(n-1)/(n-2)` is `≥ 1`) -/
theorem adjust_le (n : Nat) (r2 : Rat) (hn : 3 ≤ n) (h : r2 ≤ 1) : adjustQ n r2 ≤ r2 := by
  have hn' : (2 : Rat) < (n : Rat) := Nat.ofNat_lt_cast.2 hn
  have hk : 1 ≤ ((n : Rat) - 1) / ((n : Rat) - 2) :=
    (one_le_div (sub_pos.2 hn')).2 (sub_le_sub_left one_le_two _)
  unfold adjustQ
  exact sub_le_comm.1 (le_mul_of_one_le_right (sub_nonneg.2 h) hk)

/-- a vertical chord (`x0 = xl`) yields the degenerate coefficients `(0, 0)` -/
theorem fit_vertical (x y : List Rat) (x0 xl : Rat)
    (hx0 : x.head? = some x0) (hxl : x.getLast? = some xl) (h : x0 = xl) :
    fitQ x y = (0, 0) :=
  fitQ_of_eq y (by rw [hx0, hxl, h])

theorem lineQ_head (x y : List Rat) (x0 xl y0 yl : Rat)
    (hx0 : x.head? = some x0) (hxl : x.getLast? = some xl)
    (hy0 : y.head? = some y0) (hyl : y.getLast? = some yl) (hne : x0 ≠ xl) :
    (lineQ x (fitQ x y)).head? = some y0 := by
  rw [lineQ_fitQ y (by rw [hx0, hxl]; exact hne), List.head?_map, hx0, hxl, hy0, hyl, Option.map_some]
  simp only [Option.getD_some, sub_self, mul_zero, zero_div, add_zero]

theorem lineQ_getLast (x y : List Rat) (x0 xl y0 yl : Rat)
    (hx0 : x.head? = some x0) (hxl : x.getLast? = some xl)
    (hy0 : y.head? = some y0) (hyl : y.getLast? = some yl) (hne : x0 ≠ xl) :
    (lineQ x (fitQ x y)).getLast? = some yl := by
  rw [lineQ_fitQ y (by rw [hx0, hxl]; exact hne), List.getLast?_map, hx0, hxl, hy0, hyl, Option.map_some]
  simp only [Option.getD_some]
  rw [mul_div_cancel_right₀ _ (sub_ne_zero.2 hne.symm), add_sub_cancel]

/-- `linear_fit` returns the line through the first and the last point -/
theorem fit_through_ends (x y : List Rat) (x0 xl y0 yl : Rat)
    (hx0 : x.head? = some x0) (hxl : x.getLast? = some xl)
    (hy0 : y.head? = some y0) (hyl : y.getLast? = some yl) (hne : x0 ≠ xl) :
    let c := fitQ x y
    x0 * c.2 + c.1 = y0 ∧ xl * c.2 + c.1 = yl := by
  -- the two ends of `lineQ x (fitQ x y)`, read off `lineQ`'s `map`
  have h0 := lineQ_head x y x0 xl y0 yl hx0 hxl hy0 hyl hne
  have hl := lineQ_getLast x y x0 xl y0 yl hx0 hxl hy0 hyl hne
  rw [lineQ, List.head?_map, hx0] at h0
  rw [lineQ, List.getLast?_map, hxl] at hl
  exact ⟨Option.some.inj h0, Option.some.inj hl⟩

theorem lineQ_length (x : List Rat) (c : Rat × Rat) : (lineQ x c).length = x.length := by
  simp [lineQ]

/-- `linear_transform` is pointwise `v ↦ v*m + b` (the wrappers `linear_fit.rmspe / rmsle / smape / rpd / rmse /
linear_r2 (x, y, coef)` apply the plain metric to it) -/
theorem lineQ_getElem (x : List Rat) (c : Rat × Rat) (i : Nat) :
    (lineQ x c)[i]? = x[i]?.map (fun v => v * c.2 + c.1) := by
  simp [lineQ]

theorem corrSq_nonneg (x y : List Rat) : 0 ≤ corrSqQ x y :=
  div_nonneg (mul_self_nonneg _) (mul_nonneg (tss_nonneg x) (tss_nonneg y))

/-- `r² ≤ 1`.  No hypothesis is needed: `cauchy_schwarz_centered` holds for any two lengths (the surplus
entries of the longer list only add squares on the right), and a zero denominator makes the quotient `0` in ℚ. -/
theorem corrSq_le_one (x y : List Rat) : corrSqQ x y ≤ 1 :=
  div_le_one_of_le₀ (cauchy_schwarz_centered _ _ x y) (mul_nonneg (tss_nonneg x) (tss_nonneg y))

example : smapeQ [1, 2, 4] [1, 3, 2]
    = 3200000000000000060000000000000000 / 9000000000000000330000000000000003 := by decide +kernel
example : smapeQ [1, 2, 4] [1, 3, 2] = smapeQ [1, 3, 2] [1, 2, 4] ∧ 0 < smapeQ [1, 2, 4] [1, 3, 2]
    ∧ smapeQ [1, 2, 4] [1, 3, 2] < 2 := by decide +kernel
example : rssQ [1, 2, 4] [1, 3, 2] = 5 ∧ mseQ [1, 2, 4] [1, 3, 2] = 5 / 3 := by decide +kernel
example : r2Q [1, 2, 4] [1, 3, 2] = -1 / 14 ∧ adjustQ 3 (r2Q [1, 2, 4] [1, 3, 2]) = -8 / 7 := by
  decide +kernel
example : r2Q [3, 3, 3] [3, 4, 3] = 0 := by decide +kernel
example : fitQ [0, 1, 3] [1, 5, 7] = (1, 2) := by decide +kernel
example : lineQ [0, 1, 3] (fitQ [0, 1, 3] [1, 5, 7]) = [1, 3, 7] := by decide +kernel
example : fitQ [2, 1, 2] [1, 5, 7] = (0, 0) := by decide +kernel
example : corrSqQ [0, 1, 3] [1, 5, 7] = 169 / 196 := by decide +kernel
example : rpdQ [1, 2, 4] [1, 3, 2]
    = 1000000000000000030000000000000000 / 3600000000000000210000000000000003 := by decide +kernel

end Knee
