import Knee.Props.C12
import Knee.Model.Ranking
/-!
# C12S — hull mode excludes hull-free clusters from the *output list*; Layer-N score instances

C12 says what the per-cluster picker returns (`hullPick_some`: a member, and the cluster's span holds
a hull index).  Here that is lifted to the list returned by `postprocessing.filter_clusters(…, hull)`
(`Knee.clusterFilterHull`): **no member of a cluster whose index span `[first, last]` contains no
hull index occurs in the output.**  The lift needs that the knees are strictly increasing (so that
a knee belongs to exactly one cluster) and at least two knees (with `len(knees) <= 1` the Python
returns `knees` unfiltered; `clusterFilterHull_excludes_needs_two` shows the statement is false
there).  About the labels only `labels.length = knees.length` is assumed (they need not be
non-decreasing: the groups are the maximal runs of equal labels, `groupByLabels_eq_splitBy`).

The second part instantiates the Layer-S parameters of C12 (`score`, `area`) with the Layer-N
score models of `Model/Ranking.lean`:
* `smoothScoreOf fit ys c = smoothScores (fit c) (ys at the members of c)` — `kr.smooth_ranking`;
  `fit c` (the R² values of the documented spans, one per member) stays an oracle;
* `cornerAreaOf pts c = [cornerTriQ pts[k-1] pts[k] pts[k+1] | k ∈ c]` — `rank_corners_triangle`.
-/
namespace Knee

/-- **C12S (every output knee comes from a cluster with a hull point).** With at least two knees,
every knee returned by the hull-mode filter is a member of some cluster whose index span
`[first, last]` contains a hull index.  (No order hypothesis on the knees.) -/
theorem clusterFilterHull_mem_has_hull (hull : List Nat) (herr : List Nat → Nat → Rat)
    (labels knees : List Nat) (h2 : 2 ≤ knees.length) :
    ∀ k ∈ clusterFilterHull hull herr labels knees,
      ∃ c ∈ groupByLabels labels knees, k ∈ c ∧
        ∃ x ∈ hull, c.head?.getD 0 ≤ x ∧ x ≤ c.getLast?.getD 0 := by
  intro k hk
  rw [clusterFilterHull_filterMap hull herr labels knees h2, List.mem_filterMap] at hk
  obtain ⟨c, hc, hpick⟩ := hk
  exact ⟨c, hc, hullPick_some hpick⟩

/-- **C12S (hull-free clusters are excluded from the output).** For strictly increasing knees
(at least two), if the index span `[first, last]` of a cluster `c` contains no hull index, then
*no member of `c`* occurs in the list returned by the hull-mode filter. -/
theorem clusterFilterHull_excludes (hull : List Nat) (herr : List Nat → Nat → Rat)
    (labels knees : List Nat) (h : labels.length = knees.length)
    (hk : knees.Pairwise (· < ·)) (h2 : 2 ≤ knees.length)
    (c : List Nat) (hc : c ∈ groupByLabels labels knees)
    (hno : ∀ x ∈ hull, ¬ (c.head?.getD 0 ≤ x ∧ x ≤ c.getLast?.getD 0)) :
    ∀ k ∈ c, k ∉ clusterFilterHull hull herr labels knees := by
  intro k hkc hout
  obtain ⟨c', hc', hkc', x, hx, hspan⟩ :=
    clusterFilterHull_mem_has_hull hull herr labels knees h2 k hout
  have : c = c' := groups_eq_of_common labels knees h hk hc hc' hkc hkc'
  subst this
  exact hno x hx hspan

/-- the same with the span condition written on the members: no hull index lies between two
members of the cluster (the first and the last member are members) -/
theorem clusterFilterHull_excludes_between (hull : List Nat) (herr : List Nat → Nat → Rat)
    (labels knees : List Nat) (h : labels.length = knees.length)
    (hk : knees.Pairwise (· < ·)) (h2 : 2 ≤ knees.length)
    (c : List Nat) (hc : c ∈ groupByLabels labels knees)
    (hno : ∀ x ∈ hull, ∀ a ∈ c, ∀ b ∈ c, ¬ (a ≤ x ∧ x ≤ b)) :
    ∀ k ∈ c, k ∉ clusterFilterHull hull herr labels knees := by
  refine clusterFilterHull_excludes hull herr labels knees h hk h2 c hc ?_
  have hne := groups_nonempty labels knees c hc
  intro x hx
  have ha : c.head?.getD 0 ∈ c := by
    cases c with
    | nil => exact absurd rfl hne
    | cons a as => simp
  have hb : c.getLast?.getD 0 ∈ c := by
    rw [List.getLast?_eq_some_getLast hne]
    exact List.getLast_mem hne
  exact hno x hx _ ha _ hb

/-- consequently, if the hull misses the span of every cluster, hull mode returns the empty list
(at least two knees) -/
theorem clusterFilterHull_empty_of_no_hull (hull : List Nat) (herr : List Nat → Nat → Rat)
    (labels knees : List Nat) (h2 : 2 ≤ knees.length)
    (hno : ∀ c ∈ groupByLabels labels knees,
      ∀ x ∈ hull, ¬ (c.head?.getD 0 ≤ x ∧ x ≤ c.getLast?.getD 0)) :
    clusterFilterHull hull herr labels knees = [] := by
  rw [List.eq_nil_iff_forall_not_mem]
  intro k hk
  obtain ⟨c, hc, -, x, hx, hspan⟩ := clusterFilterHull_mem_has_hull hull herr labels knees h2 k hk
  exact hno c hc x hx hspan

/-- **C12S (`2 ≤ |knees|` is needed).** With a single knee the Python returns `knees` unchanged
(`if len(knees) <= 1: return knees`), also in hull mode and also when the knee is not on the hull:
the only cluster `[7]` has no hull point in its span, yet 7 is returned. -/
theorem clusterFilterHull_excludes_needs_two :
    groupByLabels [0] [7] = [[7]]
    ∧ (∀ x ∈ ([] : List Nat), ¬ (([7] : List Nat).head?.getD 0 ≤ x ∧ x ≤ ([7] : List Nat).getLast?.getD 0))
    ∧ 7 ∈ clusterFilterHull [] (fun _ _ => 0) [0] [7] := by
  decide +kernel

/-- the score argument of `filter_clusters` for left / linear / right ranking:
`kr.smooth_ranking(points, c, method)` = `fit(c) * relative_height(y[c])`, with the R² values
`fit c` of the documented spans as an oracle and the heights read off the curve `ys` -/
def smoothScoreOf (fit : List Nat → List Rat) (ys : List Rat) (c : List Nat) : List Rat :=
  smoothScores (fit c) (c.map fun k => ys[k]?.getD 0)

/-- the area argument of `filter_clusters_corners`: `rank_corners_triangle(points, c)`, the
corner-triangle score `0.5·(x_k − x_{k−1})·(y_k − y_{k+1})` of every member `k` (the model reads
`pts[k-1]` with truncated subtraction and default `(0,0)`; it is the Python value for
`1 ≤ k` and `k + 1 < |pts|`) -/
def cornerAreaOf (pts : List P2) (c : List Nat) : List Rat :=
  c.map fun k => cornerTriQ (pts[k - 1]?.getD (0, 0)) (pts[k]?.getD (0, 0)) (pts[k + 1]?.getD (0, 0))

/-- `smooth_ranking` returns one score per member of the cluster (given one R² value per member) -/
theorem smoothScoreOf_length (fit : List Nat → List Rat) (ys : List Rat) {c : List Nat}
    (hfit : (fit c).length = c.length) : (smoothScoreOf fit ys c).length = c.length := by
  unfold smoothScoreOf
  rw [smoothScores_length _ _ (by rw [hfit, List.length_map]), hfit]

theorem cornerAreaOf_length (pts : List P2) (c : List Nat) : (cornerAreaOf pts c).length = c.length :=
  List.length_map _

theorem cornerAreaOf_getElem (pts : List P2) (c : List Nat) (j : Nat) (hj : j < c.length) :
    (cornerAreaOf pts c)[j]?.getD 0 =
      cornerTriQ (pts[c[j] - 1]?.getD (0, 0)) (pts[c[j]]?.getD (0, 0)) (pts[c[j] + 1]?.getD (0, 0)) := by
  rw [cornerAreaOf, List.getElem?_map, List.getElem?_eq_getElem hj]; rfl

/-- **C12S (`filter_clusters` with `smooth_ranking`).** Instantiation of
`clusterFilter_one_per_cluster` with `score := smoothScoreOf fit ys`
(`= smoothScores (fit c) (ys at c)`): with at least two knees and an R² oracle returning one value
per member, the output has exactly one entry per cluster, in cluster order; entry `i` is a member
of cluster `i`, and in a multi-member cluster it attains the maximal `fit × relative height`
score of that cluster. -/
theorem clusterFilter_with_smoothScores (fit : List Nat → List Rat) (ys : List Rat)
    (labels knees : List Nat) (hfit : ∀ c, (fit c).length = c.length) (h2 : 2 ≤ knees.length) :
    let G := groupByLabels labels knees
    let out := clusterFilter (smoothScoreOf fit ys) labels knees
    out.length = G.length ∧
      ∀ i, i < G.length → ∃ k, out[i]? = some k ∧ k ∈ G[i]?.getD [] ∧
        ((G[i]?.getD []).length > 1 → ∃ p, p < (G[i]?.getD []).length ∧
          (G[i]?.getD [])[p]? = some k ∧
          ∀ j, j < (G[i]?.getD []).length →
            (smoothScores (fit (G[i]?.getD [])) ((G[i]?.getD []).map fun k => ys[k]?.getD 0))[j]?.getD 0
              ≤ (smoothScores (fit (G[i]?.getD [])) ((G[i]?.getD []).map fun k => ys[k]?.getD 0))[p]?.getD 0) :=
  clusterFilter_one_per_cluster (smoothScoreOf fit ys) labels knees
    (fun c => smoothScoreOf_length fit ys (hfit c)) h2

/-- **C12S (`pickByRank` with `smooth_ranking`).** Instantiation of `pickByRank_max`: the member
picked from one cluster `c` by `argmax(rank(smooth_ranking(points, c)))` attains the maximal
smooth score of `c`. -/
theorem pickByRank_with_smoothScores (fit : List Nat → List Rat) (ys : List Rat) (c : List Nat)
    (hfit : (fit c).length = c.length) {k : Nat}
    (hk : pickByRank (smoothScores (fit c) (c.map fun k => ys[k]?.getD 0)) c = some k) :
    ∃ i, i < c.length ∧ c[i]? = some k ∧
      ∀ j, j < c.length →
        (smoothScores (fit c) (c.map fun k => ys[k]?.getD 0))[j]?.getD 0
          ≤ (smoothScores (fit c) (c.map fun k => ys[k]?.getD 0))[i]?.getD 0 :=
  pickByRank_max (smoothScoreOf_length fit ys hfit) hk

/-- **C12S (`filter_clusters_corners` with `rank_corners_triangle`).** Instantiation of
`clusterFilterCorners_length` / `clusterFilterCorners_max` with `area := cornerAreaOf pts`
(no hypothesis: the score list has one entry per member by construction): exactly one entry per
cluster; entry `i` is the member of cluster `i` at position `p = argmax` of the corner-triangle
scores, `p` maximises the score `cornerTriQ pts[k-1] pts[k] pts[k+1]` over the members and is the
*first* maximiser. -/
theorem clusterFilterCorners_with_cornerTri (pts : List P2) (labels knees : List Nat) :
    let G := groupByLabels labels knees
    let out := clusterFilterCorners (cornerAreaOf pts) labels knees
    out.length = G.length ∧
    ∀ i, i < G.length → ∃ k p, p = argmaxIdx (cornerAreaOf pts (G[i]?.getD [])) ∧
      p < (G[i]?.getD []).length ∧ out[i]? = some k ∧ (G[i]?.getD [])[p]? = some k ∧
      (∀ j, j < (G[i]?.getD []).length →
        (cornerAreaOf pts (G[i]?.getD []))[j]?.getD 0 ≤ (cornerAreaOf pts (G[i]?.getD []))[p]?.getD 0) ∧
      (∀ j, j < p →
        (cornerAreaOf pts (G[i]?.getD []))[j]?.getD 0 < (cornerAreaOf pts (G[i]?.getD []))[p]?.getD 0) :=
  ⟨clusterFilterCorners_length (cornerAreaOf pts) labels knees (cornerAreaOf_length pts),
   clusterFilterCorners_max (cornerAreaOf pts) labels knees (cornerAreaOf_length pts)⟩

/-- the same with the score written out: the knee `k` kept for a cluster `c` has a corner-triangle
score at least that of every member of `c` -/
theorem clusterFilterCorners_with_cornerTri_mem (pts : List P2) (labels knees : List Nat)
    (i : Nat) (hi : i < (groupByLabels labels knees).length) :
    ∃ k, (clusterFilterCorners (cornerAreaOf pts) labels knees)[i]? = some k ∧
      k ∈ (groupByLabels labels knees)[i] ∧
      ∀ m ∈ (groupByLabels labels knees)[i],
        cornerTriQ (pts[m - 1]?.getD (0, 0)) (pts[m]?.getD (0, 0)) (pts[m + 1]?.getD (0, 0))
          ≤ cornerTriQ (pts[k - 1]?.getD (0, 0)) (pts[k]?.getD (0, 0)) (pts[k + 1]?.getD (0, 0)) := by
  obtain ⟨k, p, -, hp, hout, hkp, hmax, -⟩ :=
    (clusterFilterCorners_with_cornerTri pts labels knees).2 i hi
  rw [List.getElem?_eq_getElem hi, Option.getD_some] at hp hkp hmax
  refine ⟨k, hout, List.mem_of_getElem? hkp, ?_⟩
  intro m hm
  obtain ⟨j, hj, rfl⟩ := List.getElem_of_mem hm
  have := hmax j hj
  rw [cornerAreaOf_getElem pts _ j hj, cornerAreaOf_getElem pts _ p hp] at this
  obtain ⟨_, hk'⟩ := List.getElem?_eq_some_iff.1 hkp
  rw [hk'] at this
  exact this

/-- hull mode on six strictly increasing knees in three clusters `[3,5] [8] [9,12,20]`, hull
`[9, 12, 20]`: the spans `[3,5]` and `[8,8]` contain no hull index, so 3, 5 and 8 are absent. -/
example : groupByLabels [0, 0, 1, 2, 2, 2] [3, 5, 8, 9, 12, 20] = [[3, 5], [8], [9, 12, 20]]
    ∧ clusterFilterHull [9, 12, 20] (fun _ j => if j = 12 then 1 else 5)
        [0, 0, 1, 2, 2, 2] [3, 5, 8, 9, 12, 20] = [12]
    ∧ (∀ x ∈ ([9, 12, 20] : List Nat),
        ¬ (([3, 5] : List Nat).head?.getD 0 ≤ x ∧ x ≤ ([3, 5] : List Nat).getLast?.getD 0))
    ∧ ([3, 5, 8, 9, 12, 20] : List Nat).Pairwise (· < ·)
    ∧ ([0, 0, 1, 2, 2, 2] : List Nat).length = ([3, 5, 8, 9, 12, 20] : List Nat).length := by
  decide +kernel

/-- the theorem applied to that instance -/
example : (3 : Nat) ∉ clusterFilterHull [9, 12, 20] (fun _ j => if j = 12 then 1 else 5)
    [0, 0, 1, 2, 2, 2] [3, 5, 8, 9, 12, 20] :=
  clusterFilterHull_excludes [9, 12, 20] _ [0, 0, 1, 2, 2, 2] [3, 5, 8, 9, 12, 20]
    (by decide) (by decide) (by decide) [3, 5] (by decide +kernel) (by decide +kernel) 3 (by decide)

/-- a 7-point curve, knees `[1, 2, 4, 5]` in two clusters; constant fit 1: the smooth score is the
relative height below the cluster's peak, so the *lowest* member of every cluster wins -/
private def cys : List Rat := [10, 8, 5, 4, 3, 1, 0]
example : smoothScoreOf (fun c => c.map fun _ => 1) cys [1, 2] = [0, 1]
    ∧ smoothScoreOf (fun c => c.map fun _ => 1) cys [4, 5] = [0, 1]
    ∧ clusterFilter (smoothScoreOf (fun c => c.map fun _ => 1) cys) [0, 0, 1, 1] [1, 2, 4, 5] = [2, 5] := by
  decide +kernel
/-- a non-trivial fit oracle (R² 1 for the first member, 1/4 for the others) and three-member
clusters: scores `fit × relative height` -/
example : smoothScoreOf (fun c => c.mapIdx fun i _ => if i = 0 then 1 else 1/4) cys [1, 2, 3]
      = [0, 3/28, 1/7]
    ∧ clusterFilter (smoothScoreOf (fun c => c.mapIdx fun i _ => if i = 0 then 1 else 1/4) cys)
        [0, 0, 0, 1] [1, 2, 3, 5] = [3, 5] := by
  decide +kernel
/-- corner scores on the curve `(i, cys[i])`: `0.5·(x_k − x_{k−1})·(y_k − y_{k+1})` -/
private def cpts : List P2 := [(0, 10), (1, 8), (2, 5), (3, 4), (4, 3), (5, 1), (6, 0)]
example : cornerAreaOf cpts [1, 2, 3] = [3/2, 1/2, 1/2]
    ∧ cornerAreaOf cpts [4, 5] = [1, 1/2]
    ∧ clusterFilterCorners (cornerAreaOf cpts) [0, 0, 0, 1, 1] [1, 2, 3, 4, 5] = [1, 4] := by
  decide +kernel

end Knee
