import Knee.Lemmas.Detectors
/-!
# C09 — every single-knee detector returns an in-range index that optimises its own criterion

Models: `Knee/Model/Detectors.lean`.  Each detector is modelled over its *criterion array* (an
oracle: the rational array the Python code hands to `argmax` / `argmin` / `all_peaks`); the
theorems hold for every such array, so they do not depend on how the floating-point criterion
was computed.
-/
namespace Knee

/-- **C09-A (range).** `np.argmax(curvature[1:-1]) + 1` is an interior index. -/
theorem curvKnee_range {crit : List Rat} (h : 3 ≤ crit.length) :
    1 ≤ curvKnee crit ∧ curvKnee crit + 2 ≤ crit.length :=
  interior_argmax_range h

/-- **C09-A (optimality).** The curvature knee maximises the criterion over the interior.  (`h` follows
from `h1`, `h2`.) -/
theorem curvKnee_opt {crit : List Rat} (h : 3 ≤ crit.length) (j : Nat) (h1 : 1 ≤ j)
    (h2 : j + 1 < crit.length) : crit[j]?.getD 0 ≤ crit[curvKnee crit]?.getD 0 :=
  interior_argmax_ge j h1 h2

/-- **C09-A (first maximum).** Every interior index before the knee has a strictly smaller
criterion. -/
theorem curvKnee_first {crit : List Rat} (h : 3 ≤ crit.length) (j : Nat) (h1 : 1 ≤ j)
    (h2 : j < curvKnee crit) : crit[j]?.getD 0 < crit[curvKnee crit]?.getD 0 :=
  interior_argmax_first h j h1 h2

/-! Menger: `cs` holds the Menger curvature of the `cs.length` consecutive triples, i.e. the curve has
`n = cs.length + 2` points and the padded array `0 :: cs ++ [0]` has one entry per point. -/

/-- **C09-B (range).** The Menger knee is never the last point `n - 1 = cs.length + 1`: the padded
array starts and ends with `0` and `argmax` returns the *first* maximum. -/
theorem mengerKnee_range (cs : List Rat) : mengerKnee cs ≤ cs.length := by
  have hlt := argmaxIdx_lt_length (l := (0 : Rat) :: cs ++ [0]) (by simp)
  rw [padded_length] at hlt
  refine Nat.le_of_lt_succ (Nat.lt_of_le_of_ne (Nat.le_of_lt_succ hlt) fun hlast => ?_)
  have hf := argmaxIdx_first (l := (0 : Rat) :: cs ++ [0]) 0 (hlast ▸ Nat.succ_pos _)
  rw [show argmaxIdx ((0 : Rat) :: cs ++ [0]) = cs.length + 1 from hlast, padded_zero,
    padded_last] at hf
  exact Rat.lt_irrefl hf

/-- **C09-B (optimality).** The padded criterion at the knee dominates every curvature. -/
theorem mengerKnee_opt (cs : List Rat) (j : Nat) (hj : j < cs.length) :
    cs[j]?.getD 0 ≤ ((0 : Rat) :: cs ++ [0])[mengerKnee cs]?.getD 0 := by
  have h := argmaxIdx_ge (l := (0 : Rat) :: cs ++ [0]) (j + 1) (by rw [padded_length]; omega)
  rw [padded_succ cs j hj] at h
  exact h

/-- **C09-B (degenerate answer).** The knee is the first point `0` only if no triple has positive
curvature. -/
theorem mengerKnee_zero_flat (cs : List Rat) (h0 : mengerKnee cs = 0) :
    ∀ j, j < cs.length → cs[j]?.getD 0 ≤ 0 := by
  intro j hj
  have h := mengerKnee_opt cs j hj
  rw [h0, padded_zero] at h
  exact h

/-- **C09-B (proper answer).** A non-zero knee is an interior point, and the padded criterion
there is the curvature of the triple centred at it. -/
theorem mengerKnee_pos (cs : List Rat) (h0 : 0 < mengerKnee cs) :
    mengerKnee cs ≤ cs.length ∧
      ((0 : Rat) :: cs ++ [0])[mengerKnee cs]?.getD 0 = cs[mengerKnee cs - 1]?.getD 0 := by
  have hle := mengerKnee_range cs
  refine ⟨hle, ?_⟩
  rw [← padded_succ cs (mengerKnee cs - 1) (Nat.sub_one_lt_of_le h0 hle), Nat.sub_add_cancel h0]

/-- **C09-B (first maximum).** Every triple before a non-zero knee has strictly smaller curvature
than the knee's triple, and the knee's curvature is strictly positive. -/
theorem mengerKnee_first (cs : List Rat) (h0 : 0 < mengerKnee cs) :
    0 < cs[mengerKnee cs - 1]?.getD 0 ∧
      ∀ j, j + 1 < mengerKnee cs → cs[j]?.getD 0 < cs[mengerKnee cs - 1]?.getD 0 := by
  have hp := mengerKnee_pos cs h0
  rw [← hp.2]
  constructor
  · have h := argmaxIdx_first (l := (0 : Rat) :: cs ++ [0]) 0 h0
    rwa [padded_zero] at h
  · intro j hj
    have h := argmaxIdx_first (l := (0 : Rat) :: cs ++ [0]) (j + 1) hj
    rwa [padded_succ cs j (Nat.lt_of_succ_lt (Nat.lt_of_lt_of_le hj hp.1))] at h

/-- **C09-B (degenerate answer, characterisation).** The knee is the first point `0` exactly when
no triple has positive curvature (e.g. collinear points). -/
theorem mengerKnee_zero_iff_flat (cs : List Rat) :
    mengerKnee cs = 0 ↔ ∀ j, j < cs.length → cs[j]?.getD 0 ≤ 0 := by
  constructor
  · exact mengerKnee_zero_flat cs
  · intro h
    refine Nat.eq_zero_of_not_pos fun h0 => ?_
    exact Rat.not_le.mpr (mengerKnee_first cs h0).1
      (h (mengerKnee cs - 1) (Nat.sub_one_lt_of_le h0 (mengerKnee_range cs)))

/-- **C09-C (range of one round).** `np.argmin(diff[1:-1]) + 1` is an interior index. -/
theorem dfdtInner_range {d : List Rat} (h : 3 ≤ d.length) :
    1 ≤ dfdtInner d ∧ dfdtInner d + 2 ≤ d.length :=
  interior_argmin_range h

/-- **C09-C (optimality of one round).** It minimises `|gradient - threshold|` over the interior.  (`h`
follows from `h1`, `h2`.) -/
theorem dfdtInner_opt {d : List Rat} (h : 3 ≤ d.length) (j : Nat) (h1 : 1 ≤ j)
    (h2 : j + 1 < d.length) : d[dfdtInner d]?.getD 0 ≤ d[j]?.getD 0 :=
  interior_argmin_le j h1 h2

/-- **C09-C (first minimum of one round).** Every interior index before it has a strictly larger
value. -/
theorem dfdtInner_first {d : List Rat} (h : 3 ≤ d.length) (j : Nat) (h1 : 1 ≤ j)
    (h2 : j < dfdtInner d) : d[dfdtInner d]?.getD 0 < d[j]?.getD 0 :=
  interior_argmin_first h j h1 h2

/-- **C09-C (the answer is the value of an executed round).** The returned knee is
`dfdtInner (diffs c) + c` for a cutoff `c` whose sub-curve has more than two points. -/
theorem dfdtKnee_is_last_inner {diffs : Nat → List Rat} {n : Nat} (hn : 3 ≤ n) :
    ∃ c, n - c > 2 ∧ dfdtKnee diffs n = dfdtInner (diffs c) + c :=
  dfdtKnee_invariant (P := fun k => ∃ c, n - c > 2 ∧ k = dfdtInner (diffs c) + c) hn
    fun c hc => ⟨c, hc, rfl⟩

/-- **C09-C (range).** The DFDT knee is an interior index of the whole curve. -/
theorem dfdtKnee_range {diffs : Nat → List Rat} {n : Nat} (hd : ∀ c, (diffs c).length = n - c)
    (hn : 3 ≤ n) : 1 ≤ dfdtKnee diffs n ∧ dfdtKnee diffs n + 2 ≤ n :=
  dfdtKnee_invariant (P := fun k => 1 ≤ k ∧ k + 2 ≤ n) hn fun c hc =>
    (dfdtInner_add_range hd c hc).imp_left (Nat.le_trans (Nat.le_add_left 1 c))

/-- **C09-C (termination, round count).** The `while` loop runs at most `n` rounds: while it
continues the knee strictly increases and stays `≤ n - 2`. -/
theorem dfdt_rounds_le {diffs : Nat → List Rat} {n : Nat} (hd : ∀ c, (diffs c).length = n - c)
    (hn : 3 ≤ n) : dfdtRounds diffs n (n + 1) (-1) 0 0 ≤ n := by
  have h := dfdtRounds_le_bound hd (n + 1) (-1) 0 0 (Nat.le_of_succ_le hn)
  rwa [dfdtBound, if_pos (by decide)] at h

/-- **C09-C (fuel sufficiency).** The loop stops by its own condition: more fuel than `n + 1`
never changes the answer, so `dfdtKnee` is the result of the unbounded Python loop. -/
theorem dfdtLoop_fuel {diffs : Nat → List Rat} {n : Nat} (hd : ∀ c, (diffs c).length = n - c)
    (hn : 3 ≤ n) : ∀ extra, dfdtLoop diffs n (n + 1 + extra) (-1) 0 0
      = dfdtLoop diffs n (n + 1) (-1) 0 0 := fun extra =>
  dfdtLoop_add_fuel hd extra _ _ _ _ (Nat.le_of_succ_le hn) (by simp [dfdtBound])

/-- **C09-D (range).** On `len ≥ 5` points the split is in `2 … len-3`. -/
theorem lmethodScan_range {errs : List Rat} {len : Nat} (h : errs.length = len - 4)
    (hl : 5 ≤ len) : 2 ≤ lmethodScan errs ∧ lmethodScan errs + 3 ≤ len := by
  have := argminIdx_lt_length (l := errs) (h ▸ Nat.sub_pos_of_lt hl)
  rw [h, Nat.lt_sub_iff_add_lt] at this
  unfold lmethodScan
  omega

/-- **C09-D (optimality).** The split minimises the fitting error over all admissible splits
(`errs[i - 2]` is the error of split `i`). -/
theorem lmethodScan_opt {errs : List Rat} {len : Nat} (h : errs.length = len - 4)
    (i : Nat) (h1 : 2 ≤ i) (h2 : i + 3 ≤ len) :
    errs[lmethodScan errs - 2]?.getD 0 ≤ errs[i - 2]?.getD 0 := by
  rw [lmethodScan, Nat.add_sub_cancel_left]
  exact argminIdx_le (i - 2) (by omega)

/-- **C09-D (first minimum).** Every earlier split has a strictly larger error. -/
theorem lmethodScan_first {errs : List Rat} (i : Nat) (h1 : 2 ≤ i)
    (h2 : i < lmethodScan errs) :
    errs[lmethodScan errs - 2]?.getD 0 < errs[i - 2]?.getD 0 := by
  rw [lmethodScan] at h2 ⊢
  rw [Nat.add_sub_cancel_left]
  exact argminIdx_first (i - 2) (Nat.sub_lt_left_of_lt_add h1 h2)

/-- **C09-E (termination and range, all options).** For every refinement option the loop of
`lmethod.knee` stops before the fuel `n + 8` is exhausted and returns a split in `2 … n-3`.

The fuel: after the first round at most `n - 1` more are needed (`original`: the knee, `≤ n - 3`,
decreases; `adjusted`: `n - limit + 3` with `limit ≥ 4`), so `n` would do and the `+ 8` is slack.

* `none`: two iterations.
* `original`: the loop continues only while the knee moves strictly left.
* `adjusted`: with `M = max(current, last)`, the potential `M + [current > last]` drops every
  round while `M > limit`; once `M ≤ limit` the cutoff is clamped at `limit`, the scan returns the
  same knee twice and the loop stops. -/
theorem lmethod_refine_total {errs : Nat → List Rat} (he : ∀ len, (errs len).length = len - 4)
    {n limit : Nat} (hn : 5 ≤ n) (hl : 4 ≤ limit) (mode : Refinement) :
    ∃ k, lmethodKnee errs mode n limit = some k ∧ 2 ≤ k ∧ k + 3 ≤ n := by
  have hr := lmScanAt_range he hn (cutoff := n) (by omega)
  have hne : ((n : Nat) : Int) ≠ -1 := by omega
  unfold lmethodKnee
  cases mode with
  | none =>
    rw [lmethodLoop_step_none hne, lmethodLoop_stop (by simp)]
    exact ⟨_, rfl, hr.1, hr.2.1⟩
  | original =>
    rw [lmethodLoop_step_original hne]
    apply lmethodLoop_original_total he hn hl _ _ _ _ _ (by omega) hr.1 hr.2.1
    split <;> omega
  | adjusted =>
    rw [lmethodLoop_step_adjusted hne]
    apply lmethodLoop_adjusted_total he hn hl _ n _ hr.1 hr.2.1
    unfold lmPhi
    omega

/-- **C09-E (corollary).** Whatever the loop returns is an admissible split. -/
theorem lmethodKnee_range {errs : Nat → List Rat} (he : ∀ len, (errs len).length = len - 4)
    {n limit : Nat} (hn : 5 ≤ n) (hl : 4 ≤ limit) (mode : Refinement) {k : Nat}
    (hk : lmethodKnee errs mode n limit = some k) : 2 ≤ k ∧ k + 3 ≤ n := by
  obtain ⟨k', h, h2, h3⟩ := lmethod_refine_total he hn hl mode
  rw [hk] at h
  cases h
  exact ⟨h2, h3⟩

/-- **C09-F (peaks).** Characterisation of `all_peaks`: `p` is listed iff it is an interior strict
local maximum. -/
theorem allPeaks_mem (dd : List Rat) (p : Nat) :
    p ∈ allPeaks dd ↔ 1 ≤ p ∧ p + 1 < dd.length ∧
      dd[p - 1]?.getD 0 < dd[p]?.getD 0 ∧ dd[p + 1]?.getD 0 < dd[p]?.getD 0 := by
  rw [allPeaks, mem_peaksGo]
  simp only [Nat.zero_add]
  constructor
  · rintro ⟨j, rfl, h⟩
    exact ⟨Nat.le_add_left 1 j, h⟩
  · rintro ⟨hp, h⟩
    obtain ⟨j, rfl⟩ : ∃ j, p = j + 1 := ⟨p - 1, (Nat.sub_add_cancel hp).symm⟩
    exact ⟨j, rfl, h⟩

/-- also without a peak: `[][i]? = none` -/
theorem kneedleKnee_eq (dd : List Rat) :
    kneedleKnee dd = (allPeaks dd)[argmaxIdx ((allPeaks dd).map fun p => dd[p]?.getD 0)]? := by
  rw [kneedleKnee]
  cases allPeaks dd <;> rfl

/-- **C09-F (no answer).** Kneedle returns nothing exactly when the difference curve has no
strict peak. -/
theorem kneedleKnee_none_iff {dd : List Rat} : kneedleKnee dd = none ↔ allPeaks dd = [] := by
  rw [kneedleKnee_eq, List.getElem?_eq_none_iff]
  refine ⟨fun h => List.eq_nil_of_length_eq_zero (Nat.eq_zero_of_not_pos fun hp => ?_),
    fun h => h ▸ Nat.zero_le _⟩
  have hi := argmaxIdx_lt_length (l := (allPeaks dd).map fun p => dd[p]?.getD 0)
    (by rwa [List.length_map])
  rw [List.length_map] at hi
  exact Nat.not_le.mpr hi h

theorem kneedleKnee_some {dd : List Rat} {k : Nat} (h : kneedleKnee dd = some k) :
    k ∈ allPeaks dd ∧ ∀ p ∈ allPeaks dd, dd[p]?.getD 0 ≤ dd[k]?.getD 0 := by
  rw [kneedleKnee_eq] at h
  refine ⟨List.mem_of_getElem? h, fun p hp => ?_⟩
  obtain ⟨i, hi, rfl⟩ := List.getElem_of_mem hp
  have hge := argmaxIdx_ge (l := (allPeaks dd).map fun p => dd[p]?.getD 0) i
    (by rw [List.length_map]; exact hi)
  simpa only [List.getElem?_map, List.getElem?_eq_getElem hi, h, Option.map_some,
    Option.getD_some] using hge

/-- **C09-F (range).** The Kneedle knee is an interior index. -/
theorem kneedleKnee_range {dd : List Rat} {k : Nat} (h : kneedleKnee dd = some k) :
    1 ≤ k ∧ k + 2 ≤ dd.length := by
  have := (allPeaks_mem dd k).1 (kneedleKnee_some h).1
  omega

/-- **C09-F (peak).** It is a strict local maximum of the difference curve. -/
theorem kneedleKnee_is_peak {dd : List Rat} {k : Nat} (h : kneedleKnee dd = some k) :
    dd[k - 1]?.getD 0 < dd[k]?.getD 0 ∧ dd[k + 1]?.getD 0 < dd[k]?.getD 0 := by
  have := (allPeaks_mem dd k).1 (kneedleKnee_some h).1
  exact ⟨this.2.2.1, this.2.2.2⟩

/-- **C09-F (highest).** No peak is higher. -/
theorem kneedleKnee_highest {dd : List Rat} {k : Nat} (h : kneedleKnee dd = some k) :
    ∀ p ∈ allPeaks dd, dd[p]?.getD 0 ≤ dd[k]?.getD 0 :=
  (kneedleKnee_some h).2

/-- for C03 (`kneedle_unimodal`) -/
theorem unimodal_allPeaks_mem (d : List Rat) (c : Nat)
    (hup : ∀ i, i < c → d[i]?.getD 0 < d[i + 1]?.getD 0)
    (hdown : ∀ i, c ≤ i → i + 1 < d.length → d[i + 1]?.getD 0 < d[i]?.getD 0) :
    ∀ p ∈ allPeaks d, p = c := by
  intro p hp
  rw [allPeaks_mem] at hp
  obtain ⟨hp1, hp2, ha, hb⟩ := hp
  rcases Nat.lt_trichotomy p c with hlt | heq | hgt
  · exact absurd (hup p hlt) (Rat.not_lt.mpr (Rat.le_of_lt hb))
  · exact heq
  · obtain ⟨q, rfl⟩ : ∃ q, p = q + 1 := Nat.exists_eq_add_of_le' hp1
    exact absurd (hdown q (Nat.le_of_lt_succ hgt) (Nat.lt_of_succ_lt hp2))
      (Rat.not_lt.mpr (Rat.le_of_lt ha))

/-! ## Non-vacuity

Concrete arrays: the detectors compute the expected answers, ties are broken towards the first
extremum, the loops really iterate, and the hypotheses on the oracles are satisfiable. -/

example : curvKnee [9, 1, 4, 7, 7, 2, 8] = 3 := by decide +kernel
example : mengerKnee [1, 3, 3, 2] = 2 ∧ mengerKnee [-1, -2] = 0 := by decide +kernel
example : dfdtInner [0, 5, 2, 2, 7, 1] = 2 := by decide +kernel
example : lmethodScan [5, 3, 1, 1, 4] = 4 := by decide +kernel

/-- DFDT oracle for the examples: on the sub-curve starting at `c` the minimum sits at local
index `c + 1` (for `c = 4` that is the last entry, outside the interior), so the knee moves right
(`1, 3, 5, 7, 8`) until a round repeats it (`8, 8`): 6 rounds. -/
private def diffsEx : Nat → List Rat := fun c =>
  (List.range (10 - c)).map fun (i : Nat) => ((((i : Int) - c - 1) ^ 2 : Int) : Rat)

example : ∀ c, (diffsEx c).length = 10 - c := by intro c; simp [diffsEx]
example : dfdtKnee diffsEx 10 = 8 ∧ dfdtRounds diffsEx 10 11 (-1) 0 0 = 6 := by decide +kernel
example : dfdtLoop diffsEx 10 40 (-1) 0 0 = dfdtKnee diffsEx 10 := by decide +kernel

/-- L-method oracle with a fixed best split (`5` as soon as the sub-curve is long enough). -/
private def errsEx : Nat → List Rat := fun len =>
  (List.range (len - 4)).map fun (i : Nat) => ((((i : Int) - 3) ^ 2 : Int) : Rat)

/-- L-method oracle whose best split is the middle of the sub-curve, so that the refinement
really iterates. -/
private def errsMid : Nat → List Rat := fun len =>
  (List.range (len - 4)).map fun (i : Nat) => ((((i : Int) - ((len - 4) / 2 : Nat)) ^ 2 : Int) : Rat)

example : ∀ len, (errsEx len).length = len - 4 := by intro len; simp [errsEx]
example : ∀ len, (errsMid len).length = len - 4 := by intro len; simp [errsMid]
example : lmethodKnee errsEx .none 12 4 = some 5 ∧ lmethodKnee errsEx .original 12 4 = some 5
    ∧ lmethodKnee errsEx .adjusted 12 4 = some 5 := by decide +kernel
example : lmethodKnee errsMid .none 30 4 = some 15 ∧ lmethodKnee errsMid .original 30 4 = some 15
    ∧ lmethodKnee errsMid .adjusted 30 4 = some 2 ∧ lmethodKnee errsMid .adjusted 30 10 = some 5 := by
  decide +kernel

example : allPeaks [0, 2, 1, 3, 3, 1, 5, 0] = [1, 6] := by decide +kernel
example : kneedleKnee [0, 2, 1, 3, 3, 1, 5, 0] = some 6 ∧ kneedleKnee [0, 5, 1, 5, 0] = some 1
    ∧ kneedleKnee [0, 1, 2, 3] = none := by decide +kernel

end Knee
