import Knee.Props.C03A
import Knee.Props.C03B
import Knee.Props.C09
import Knee.Lemmas.ElbowKneedle
/-!
# C03 — every single-knee detector finds the corner of an exact two-slope elbow

Models: the exact criteria over ℚ of `Model/Elbow`, `Model/Isodata`, `Model/KneedleQ` (Layer N) plugged
into the index selection of `Model/Detectors` (Layer S).  Exact rational arithmetic: no tolerance, no
oracle.

An elbow `IsElbow x y n c s1 s2` is a curve of `n` points with strictly increasing abscissae made
of exactly two straight arms of slopes `s1 ≠ s2` meeting at index `c`, each arm having at least
three segments (`3 ≤ c`, `c + 3 < n`).  The statements are therefore *more general* than the
property ("unit-spaced x, slopes a and b"): any strictly increasing `x`, any pair of distinct
rational slopes, any offset, any arm lengths ≥ 3.

The two L-method statements here are about the end-point fit with the RSS cost (`lmErrRss`,
`lmethodKneeQ`); `lmethod.knee` itself scans with `Cost.rmse`: that is `lmethodKneeGen`, for which
`Props/C03D.lean` proves `lmethod_elbow_gen` (every Fit × Cost and every refinement option).
-/
namespace Knee

variable {x y : Nat → Rat} {n c : Nat} {s1 s2 : Rat}

/-- **C03 (curvature).** `np.argmax(curvature[1:-1]) + 1` of an exact elbow is the corner: the
criterion `f''² / (1 + f'²)³` vanishes off the corner and is positive at it. -/
theorem elbow_curvature (h : IsElbow x y n c s1 s2) : curvKneeQ x y n = c := by
  have h1 := h.arm1
  have h2 := h.arm2
  refine curvKnee_eq_of_unique _ (by omega) (by omega) fun j hj1 hj2 hjc => ?_
  rw [curvCrit_elbow_off h j (by omega) hjc]
  exact curvCrit_elbow_corner h

/-- **C03 (Menger).** `np.argmax([0] + menger + [0])` of an exact elbow is the corner. -/
theorem elbow_menger (h : IsElbow x y n c s1 s2) : mengerKneeQ x y n = c := by
  have h1 := h.arm1
  have h2 := h.arm2
  refine mengerKnee_eq_of_unique (mengerAt x y) (by omega) (by omega) (menger_elbow_corner h)
    fun i hi1 hi2 hic => ?_
  rw [menger_elbow_off h i hi1 (by omega) hic]
  exact menger_elbow_corner h

/-- **C03 (L-method, one scan).** The first minimum of the end-point-fit RSS error over the splits
`2 … n-3` is the corner (error exactly `0` there, `> 0` elsewhere). -/
theorem elbow_lmethod_scan (h : IsElbow x y n c s1 s2) : lmethodScan (lmErrsRss x y n) = c := by
  rw [lmErrsRss_eq_gen]
  exact lmethod_scan_elbow_gen h rfl (fun _ hv => hv) false false

/-- **C03 (L-method, no refinement, RSS cost).** The loop of `lmethod.knee(…, Refinement.none)` run over
the RSS error performs one scan on the full curve and stops: it returns the corner, for every
`limit`. -/
theorem elbow_lmethod_none (h : IsElbow x y n c s1 s2) (limit : Nat) :
    lmethodKneeQ x y .none n limit = some c := by
  have h1 := h.arm1
  have h2 := h.arm2
  rw [lmethodKneeQ, lmErrsRss_eq_gen]
  exact lmethodKnee_of_scan _ .none n limit c (by omega) (by omega)
    fun cutoff hc => h.scanAt rfl (fun _ hv => hv) false false cutoff hc

/-- the gradient array of an exact elbow: `c` copies of `s1`, the corner gradient, `n - 1 - c`
copies of `s2` -/
theorem elbow_gradient (h : IsElbow x y n c s1 s2) :
    (List.range n).map (cfdQ x y n) = elbowG c (cfdQ x y n c) (n - 1 - c) s1 s2 := by
  have h2 := h.arm2
  rw [elbowG_eq_map, show c + 1 + (n - 1 - c) = n by omega]
  refine List.map_congr_left fun i hi => ?_
  by_cases hic : i = c
  · rw [hic, if_neg (Nat.lt_irrefl c), if_pos rfl]
  · rw [h.cfd_off i (List.mem_range.mp hi) hic]
    split_ifs <;> rfl

/-- the corner gradient (three-point central derivative) is the convex combination of the two
slopes weighted by the neighbouring spacings … -/
theorem elbow_corner_gradient (h : IsElbow x y n c s1 s2) :
    cfdQ x y n c =
      (s1 * (x (c + 1) - x c) + s2 * (x c - x (c - 1))) / (x (c + 1) - x (c - 1)) := by
  obtain ⟨e1, e3⟩ := h.triple_corner
  obtain ⟨n12, n13, n23⟩ := h.triple_corner_ne
  rw [cfdQ_eq, h.stencil_corner, lagrangeD_slopes n12 n13 n23 e1 e3, sub_self, mul_zero, add_zero]

/-- … hence strictly between the slopes -/
theorem elbow_corner_gradient_between (h : IsElbow x y n c s1 s2) :
    min s1 s2 < cfdQ x y n c ∧ cfdQ x y n c < max s1 s2 := by
  have := h.arm1
  have := h.arm2
  rw [elbow_corner_gradient h, ← sub_add_sub_cancel (x (c + 1)) (x c) (x (c - 1))]
  exact convex_between s1 s2 _ _ (sub_pos.mpr (h.x_lt (Nat.lt_succ_self c) (by omega)))
    (sub_pos.mpr (h.x_lt (by omega) h.corner_lt)) h.slopes

/-- **C03 (DFDT).** `dfdt.knee` on the gradient of an exact elbow (exact ISODATA threshold,
`eps = 1e-6`, `max_iter = 100`) returns the corner.  On the gradient array alone: `dfdt_elbow'`
(`Props/C03B.lean`). -/
theorem elbow_dfdt (h : IsElbow x y n c s1 s2) :
    dfdtKnee (dfdtDiffsQ ((List.range n).map (cfdQ x y n))) n = c := by
  have h1 := h.arm1
  have h2 := h.arm2
  obtain ⟨hlo, hhi⟩ := elbow_corner_gradient_between h
  have e : n = c + 1 + (n - 1 - c) := by omega
  rw [elbow_gradient h]
  have := dfdt_elbow' c (n - 1 - c) (cfdQ x y n c) s1 s2 (by omega) (by omega) hlo hhi
  rwa [← e] at this

/-! ## Kneedle (no smoothing) on monotone elbows

`kneedle.knee` needs a monotone curve to make sense (the difference curve is built from the
min-max normalised coordinates and the direction of the chord), so the elbow is taken
non-decreasing (`0 ≤ s1, s2`) or non-increasing (`s1, s2 ≤ 0`); a flat arm is allowed. -/

/-- a difference curve that strictly increases up to `c` and strictly decreases after it has `c`
as its only strict peak, which `highest_peak` returns -/
theorem kneedle_unimodal (d : List Rat) (c : Nat) (hc1 : 1 ≤ c) (hc2 : c + 1 < d.length)
    (hup : ∀ i, i < c → d[i]?.getD 0 < d[i + 1]?.getD 0)
    (hdown : ∀ i, c ≤ i → i + 1 < d.length → d[i + 1]?.getD 0 < d[i]?.getD 0) :
    kneedleKnee d = some c := by
  have hmem : c ∈ allPeaks d := by
    rw [allPeaks_mem]
    refine ⟨hc1, hc2, ?_, hdown c (Nat.le_refl _) hc2⟩
    have := hup (c - 1) (by omega)
    rwa [Nat.sub_add_cancel hc1] at this
  obtain ⟨k, hk⟩ := Option.ne_none_iff_exists'.mp
    (mt kneedleKnee_none_iff.mp (List.ne_nil_of_mem hmem))
  rw [hk, unimodal_allPeaks_mem d c hup hdown k (kneedleKnee_some hk).1]

/-- `linear_fit` of an elbow is its chord; the chord's slope lies strictly between the slopes -/
theorem elbow_chord (h : IsElbow x y n c s1 s2) :
    fitQ ((List.range n).map x) ((List.range n).map y) =
        (y 0 - chordM x y n * x 0, chordM x y n) ∧
      min s1 s2 < chordM x y n ∧ chordM x y n < max s1 s2 :=
  ⟨fitQ_range x y (by have := h.corner_lt; omega) (sub_pos.mp h.span_pos).ne, by
    rw [h.chordM_eq, ← sub_add_sub_cancel' (x c) (x 0) (x (n - 1))]
    exact convex_between s1 s2 _ _ h.arm1_span_pos h.arm2_span_pos h.slopes⟩

/-- the concavity vote `Σ (y − ŷ)` is never `0` on an elbow: positive iff `s2 < s1` (the curve lies
above its chord), negative iff `s1 < s2` -/
theorem elbow_vote (h : IsElbow x y n c s1 s2) :
    (s2 < s1 → 0 < ((List.range n).map fun i =>
        y i - (x i * chordM x y n + (y 0 - chordM x y n * x 0))).sum) ∧
      (s1 < s2 → ((List.range n).map fun i =>
        y i - (x i * chordM x y n + (y 0 - chordM x y n * x 0))).sum < 0) := by
  -- every term has the sign of `s1 - s2`, the corner's strictly
  have hc := h.chordDev_eq c h.corner_lt
  have hmem := List.mem_range.mpr h.corner_lt
  constructor <;> intro hs
  · have := List.sum_lt_sum (fun _ => (0 : Rat)) (chordDev x y n)
      (fun i hi => h.dev_nonneg hs i (List.mem_range.mp hi)) ⟨c, hmem, by
        rw [hc]; exact div_pos (mul_pos (sub_pos.mpr hs) h.tent_corner) h.span_pos⟩
    rwa [List.sum_map_zero] at this
  · have := List.sum_lt_sum (chordDev x y n) (fun _ => (0 : Rat))
      (fun i hi => h.chordDev_nonpos hs i (List.mem_range.mp hi)) ⟨c, hmem, by
        rw [hc]
        exact div_neg_of_neg_of_pos (mul_neg_of_neg_of_pos (sub_neg.mpr hs) h.tent_corner)
          h.span_pos⟩
    rwa [List.sum_map_zero] at this

theorem IsElbow.peak_of_dev (h : IsElbow x y n c s1 s2) {d : Nat → Rat} {α k : Rat}
    (hα : 0 < α * (s1 - s2))
    (hd : ∀ i, i < n → d i = α * chordDev x y n i + k) :
    kneedleKnee ((List.range n).map d) = some c := by
  have hc1 := h.arm1
  have hc2 := h.arm2
  have hβ : 0 < α * (s1 - s2) / (x (n - 1) - x 0) := div_pos hα h.span_pos
  have e : ∀ i, i < n → d i = α * (s1 - s2) / (x (n - 1) - x 0) * tent x n c i + k := by
    intro i hi
    rw [hd i hi, h.chordDev_eq i hi]
    ring
  have key : ∀ {i j : Nat}, i < n → j < n → tent x n c i < tent x n c j →
      ((List.range n).map d)[i]?.getD 0 < ((List.range n).map d)[j]?.getD 0 := by
    intro i j hi hj hlt
    rw [getD_range_map hi, getD_range_map hj, e i hi, e j hj]
    exact add_lt_add_left (mul_lt_mul_of_pos_left hlt hβ) k
  apply kneedle_unimodal _ _ (by omega) (by simp only [List.length_map, List.length_range]; omega)
  · exact fun i hi => key (by omega) (by omega) (h.tent_up i hi)
  · intro i hi hlen
    simp only [List.length_map, List.length_range] at hlen
    exact key hlen (by omega) (h.tent_down i hi hlen)

/-- **C03 (Kneedle), for every monotone elbow** (the slopes differ, so a weakly monotone elbow is not
flat).  By `kneedleDiffQ_ends` the difference curve is, in each of the four direction × concavity
cases, `α · (y − ŷ) + k` with `ŷ` the chord, `α = ±1 / (y_last − y_0)` of the sign of `s1 − s2` and
`k ∈ {0, 1}`; `IsElbow.peak_of_dev` puts its only strict peak at the corner. -/
theorem elbow_kneedle' (h : IsElbow x y n c s1 s2)
    (hmono : (0 ≤ s1 ∧ 0 ≤ s2) ∨ (s1 ≤ 0 ∧ s2 ≤ 0)) :
    kneedleKneeQ ((List.range n).map x) ((List.range n).map y) = some c := by
  have hn : n ≠ 0 := by have := h.corner_lt; omega
  have hX : x 0 < x (n - 1) := sub_pos.mp h.span_pos
  have hy := hmono.imp (fun a => h.y_ends_inc a.1 a.2) (fun a => h.y_ends_dec a.1 a.2)
  rw [kneedleKneeQ, kneedleDiffQ_ends x y hn (fun i hi =>
    ⟨h.x_mono (Nat.zero_le i) hi, h.x_mono (Nat.le_sub_one_of_lt hi) (by omega)⟩) hX hy]
  -- `elbow_vote` with `chordDev` folded (the same term)
  have hv : (s2 < s1 → 0 < ((List.range n).map (chordDev x y n)).sum) ∧
      (s1 < s2 → ((List.range n).map (chordDev x y n)).sum < 0) := elbow_vote h
  rcases hy with ⟨hY, -⟩ | ⟨hY, -⟩ <;> rcases lt_or_gt_of_ne h.slopes with hs | hs
  · -- increasing, below the chord: `|y_n − x_n| = −(y − ŷ) / (y_last − y_0)`
    simp only [if_pos hY, if_neg (not_lt.mpr (hv.2 hs).le)]
    refine h.peak_of_dev (α := -(1 / (y (n - 1) - y 0))) (k := 0) (mul_pos_of_neg_of_neg
      (neg_neg_of_pos (one_div_pos.mpr (sub_pos.mpr hY))) (sub_neg.mpr hs)) fun i hi => ?_
    rw [rabs_of_nonpos
      (div_nonpos_of_nonpos_of_nonneg (h.chordDev_nonpos hs i hi) (sub_pos.mpr hY).le)]
    ring
  · -- increasing, above the chord: `y_n − x_n`
    simp only [if_pos hY, if_pos (hv.1 hs)]
    exact h.peak_of_dev (α := 1 / (y (n - 1) - y 0)) (k := 0)
      (mul_pos (one_div_pos.mpr (sub_pos.mpr hY)) (sub_pos.mpr hs)) fun i _ => by ring
  · -- decreasing, below the chord: `1 − (x_n + y_n)`
    simp only [if_neg (not_lt.mpr hY.le), if_neg (not_lt.mpr (hv.2 hs).le)]
    exact h.peak_of_dev (α := 1 / (y (n - 1) - y 0)) (k := 0)
      (mul_pos_of_neg_of_neg (one_div_neg.mpr (sub_neg.mpr hY)) (sub_neg.mpr hs))
      fun i _ => by ring
  · -- decreasing, above the chord: `x_n + y_n`
    simp only [if_neg (not_lt.mpr hY.le), if_pos (hv.1 hs)]
    exact h.peak_of_dev (α := -(1 / (y (n - 1) - y 0))) (k := 1)
      (mul_pos (neg_pos.mpr (one_div_neg.mpr (sub_neg.mpr hY))) (sub_pos.mpr hs))
      fun i _ => by ring

/-- **C03 (Kneedle).** On a monotone exact elbow `kneedle.knee` without smoothing returns the
corner, in all four direction × concavity cases.  The clause that the elbow is not flat is implied
by `s1 ≠ s2`: `elbow_kneedle'` does without it. -/
theorem elbow_kneedle (h : IsElbow x y n c s1 s2)
    (hmono : (0 ≤ s1 ∧ 0 ≤ s2 ∧ (0 < s1 ∨ 0 < s2)) ∨ (s1 ≤ 0 ∧ s2 ≤ 0 ∧ (s1 < 0 ∨ s2 < 0))) :
    kneedleKneeQ ((List.range n).map x) ((List.range n).map y) = some c :=
  elbow_kneedle' h (hmono.imp (fun a => ⟨a.1, a.2.1⟩) (fun a => ⟨a.1, a.2.1⟩))

/-- the unit-spaced two-slope curve through the origin; `elbow_exists` spells its body out -/
def unitElbowY (c : Nat) (s1 s2 : Rat) (i : Nat) : Rat :=
  if i ≤ c then s1 * (i : Rat) else s1 * (c : Rat) + s2 * ((i : Rat) - (c : Rat))

/-- **C03 (non-vacuity, general).** For every corner index `c ≥ 3`, every length `n > c + 3` and
every pair of distinct slopes, the unit-spaced two-slope curve is an elbow. -/
theorem elbow_exists (n c : Nat) (s1 s2 : Rat) (hc : 3 ≤ c) (hn : c + 3 < n) (hs : s1 ≠ s2) :
    IsElbow (fun i => (i : Rat))
      (fun i => if i ≤ c then s1 * (i : Rat) else s1 * (c : Rat) + s2 * ((i : Rat) - (c : Rat)))
      n c s1 s2 where
  xinc := by
    intro i j hij _
    exact_mod_cast hij
  left := by
    intro i hi
    simp only [if_pos hi, Nat.zero_le, if_true]
    push_cast
    ring
  right := by
    intro i hi _
    simp only [Nat.le_refl, if_true]
    by_cases hic : i ≤ c
    · have e : i = c := by omega
      subst e
      simp
    · simp only [if_neg hic]
  slopes := hs
  arm1 := hc
  arm2 := hn

/-- the sample elbow of `Props/C03A.lean` (9 points, corner 4, slopes −2 and −1/8) -/
example : IsElbow (fun i => (i : Rat)) sampleElbowY 9 4 (-2) (-1 / 8) := sampleElbow_isElbow

example : curvKneeQ (fun i => (i : Rat)) sampleElbowY 9 = 4 := by decide +kernel
example : mengerKneeQ (fun i => (i : Rat)) sampleElbowY 9 = 4 := by decide +kernel
example : lmethodKneeQ (fun i => (i : Rat)) sampleElbowY .none 9 4 = some 4 := by decide +kernel
example : (List.range 9).map (cfdQ (fun i => (i : Rat)) sampleElbowY 9)
    = [-2, -2, -2, -2, -17 / 16, -1 / 8, -1 / 8, -1 / 8, -1 / 8] := by decide +kernel
example : dfdtKnee (dfdtDiffsQ ((List.range 9).map (cfdQ (fun i => (i : Rat)) sampleElbowY 9))) 9
    = 4 := by decide +kernel
example : kneedleDiffQ ((List.range 9).map fun i : Nat => (i : Rat)) ((List.range 9).map sampleElbowY)
    = [0, 15 / 136, 15 / 68, 45 / 136, 15 / 34, 45 / 136, 15 / 68, 15 / 136, 0] := by decide +kernel
example : kneedleKneeQ ((List.range 9).map fun i : Nat => (i : Rat)) ((List.range 9).map sampleElbowY)
    = some 4 := by decide +kernel
/-- the theorems agree with the computation -/
example : curvKneeQ (fun i => (i : Rat)) sampleElbowY 9 = 4 := elbow_curvature sampleElbow_isElbow
example : mengerKneeQ (fun i => (i : Rat)) sampleElbowY 9 = 4 := elbow_menger sampleElbow_isElbow
example : lmethodKneeQ (fun i => (i : Rat)) sampleElbowY .none 9 4 = some 4 :=
  elbow_lmethod_none sampleElbow_isElbow 4
example : dfdtKnee (dfdtDiffsQ ((List.range 9).map (cfdQ (fun i => (i : Rat)) sampleElbowY 9))) 9
    = 4 := elbow_dfdt sampleElbow_isElbow
example : kneedleKneeQ ((List.range 9).map fun i : Nat => (i : Rat)) ((List.range 9).map sampleElbowY)
    = some 4 := elbow_kneedle sampleElbow_isElbow (Or.inr (by norm_num))

/-- the other three Kneedle cases, kernel-evaluated: increasing concave-down (`3, 1/2`), increasing
concave-up with a flat first arm (`0, 2`: exercises `|y_n − x_n|`), decreasing concave-down with a
flat first arm (`0, −1`) -/
example : kneedleKneeQ ((List.range 10).map fun i : Nat => (i : Rat))
    ((List.range 10).map (unitElbowY 5 3 (1 / 2))) = some 5 := by decide +kernel
example : kneedleKneeQ ((List.range 10).map fun i : Nat => (i : Rat))
    ((List.range 10).map (unitElbowY 3 0 2)) = some 3 := by decide +kernel
example : kneedleKneeQ ((List.range 10).map fun i : Nat => (i : Rat))
    ((List.range 10).map (unitElbowY 6 0 (-1))) = some 6 := by decide +kernel
/-- … and as instances of the theorems -/
example : kneedleKneeQ ((List.range 10).map fun i : Nat => (i : Rat))
    ((List.range 10).map (unitElbowY 3 0 2)) = some 3 :=
  elbow_kneedle' (elbow_exists 10 3 0 2 (by omega) (by omega) (by norm_num)) (Or.inl (by norm_num))
example : dfdtKnee (dfdtDiffsQ ((List.range 10).map
    (cfdQ (fun i : Nat => (i : Rat)) (unitElbowY 5 3 (1 / 2)) 10))) 10 = 5 :=
  elbow_dfdt (elbow_exists 10 5 3 (1 / 2) (by omega) (by omega) (by norm_num))

end Knee
