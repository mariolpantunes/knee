import Knee.Lemmas.ClusterFilter
import Knee.Lemmas.GetD
/-!
# C12 — the cluster filter keeps one best-ranked knee per cluster

Models: `Knee.groupByLabels` (the knees grouped into the maximal runs of equal cluster label,
`groupByLabels_eq_splitBy`; for the labels the linkages produce — C11: ascending from 0 in steps of
0 or 1 — these are `knees[clusters == i]` for `i = 0 … max`, for a label list in which a label
recurs after a gap they are not), `Knee.pickByRank` (`cluster[np.argmax(kr.rank(rankings))]`),
`Knee.clusterFilter` (postprocessing.filter_clusters, left / linear / right ranking),
`Knee.clusterFilterHull` (hull ranking), `Knee.clusterFilterCorners`
(postprocessing.filter_clusters_corners).  `score c`, `herr c j`, `area c` are Layer-S parameters
(arbitrary functions of the members of one cluster).

Since NumPy's argsort tie order is unspecified, the correspondence on equal scores is relational:
for rank and corner mode the theorems state that the chosen member *attains the maximal score* of
its cluster; for hull mode they state membership and a hull index in the cluster's span
(`hullPick_some`).
-/
namespace Knee

/-- concatenating the groups gives back the knees (nothing lost, nothing duplicated, order kept) -/
theorem groups_flatten (labels knees : List Nat) (h : labels.length = knees.length) :
    (groupByLabels labels knees).flatten = knees := by
  rw [groupByLabels_eq_splitBy, ← List.map_flatten, List.flatten_splitBy,
    List.map_snd_zip (Nat.le_of_eq h.symm)]

theorem groups_nonempty (labels knees : List Nat) :
    ∀ c ∈ groupByLabels labels knees, c ≠ [] := by
  rw [groupByLabels_eq_splitBy]
  intro c hc
  obtain ⟨m, hm, rfl⟩ := List.mem_map.1 hc
  exact fun e => List.ne_nil_of_mem_splitBy hm (List.map_eq_nil_iff.1 e)

/-- every group is a contiguous block of the knees -/
theorem groups_infix (labels knees : List Nat) (h : labels.length = knees.length) :
    ∀ c ∈ groupByLabels labels knees, c <:+: knees := by
  intro c hc
  have := List.infix_of_mem_flatten hc
  rwa [groups_flatten labels knees h] at this

theorem groups_sublist (labels knees : List Nat) (h : labels.length = knees.length) :
    ∀ c ∈ groupByLabels labels knees, c.Sublist knees :=
  fun c hc => (groups_infix labels knees h c hc).sublist

/-- for strictly increasing knees, an earlier group lies entirely below a later group -/
theorem groups_ordered (labels knees : List Nat) (h : labels.length = knees.length)
    (hk : knees.Pairwise (· < ·)) :
    (groupByLabels labels knees).Pairwise (fun g1 g2 => ∀ a ∈ g1, ∀ b ∈ g2, a < b) := by
  rw [← groups_flatten labels knees h] at hk
  exact (List.pairwise_flatten.1 hk).2

/-- for strictly increasing knees, two clusters that share a member are the same cluster -/
theorem groups_eq_of_common (labels knees : List Nat) (h : labels.length = knees.length)
    (hk : knees.Pairwise (· < ·)) {c c' : List Nat}
    (hc : c ∈ groupByLabels labels knees) (hc' : c' ∈ groupByLabels labels knees)
    {k : Nat} (h1 : k ∈ c) (h2 : k ∈ c') : c = c' := by
  -- distinct groups are disjoint, because one lies entirely below the other
  have hd : (groupByLabels labels knees).Pairwise fun g1 g2 => ∀ a ∈ g1, ∀ b ∈ g2, a ≠ b :=
    (groups_ordered labels knees h hk).imp fun hlt a ha b hb => Nat.ne_of_lt (hlt a ha b hb)
  exact Classical.byContradiction fun hne =>
    pairwise_forall_ne (fun _ _ hs a ha b hb => (hs b hb a ha).symm) hd hc hc' hne k h1 k h2 rfl

theorem groups_strict (labels knees : List Nat) (h : labels.length = knees.length)
    (hk : knees.Pairwise (· < ·)) :
    ∀ c ∈ groupByLabels labels knees, c.Pairwise (· < ·) := by
  rw [← groups_flatten labels knees h] at hk
  exact (List.pairwise_flatten.1 hk).1

theorem pickByRank_mem {scores : List Rat} {c : List Nat} {k : Nat}
    (hk : pickByRank scores c = some k) : k ∈ c :=
  List.mem_of_getElem? (pickByRank_eq scores c ▸ hk)

theorem pickByRank_some {scores : List Rat} {c : List Nat} (h : scores.length = c.length)
    (hne : c ≠ []) : ∃ k, pickByRank scores c = some k := by
  have hs : scores ≠ [] := List.ne_nil_of_length_pos (h ▸ List.length_pos_iff.2 hne)
  have hlt : argmaxIdx (ranksQ scores) < c.length := h ▸ argmax_ranksQ_lt scores hs
  exact ⟨_, (pickByRank_eq scores c).trans (List.getElem?_eq_getElem hlt)⟩

theorem pickByRank_max {scores : List Rat} {c : List Nat} {k : Nat}
    (h : scores.length = c.length) (hk : pickByRank scores c = some k) :
    ∃ i, i < c.length ∧ c[i]? = some k ∧
      ∀ j, j < c.length → scores[j]?.getD 0 ≤ scores[i]?.getD 0 := by
  rw [pickByRank_eq] at hk
  refine ⟨argmaxIdx (ranksQ scores), ?_, hk, ?_⟩
  · exact (List.getElem?_eq_some_iff.1 hk).1
  · intro j hj
    exact argmax_ranksQ_max scores j (h ▸ hj)

theorem rankPick_some (score : List Nat → List Rat) (hs : ∀ c, (score c).length = c.length)
    {labels knees c : List Nat} (hc : c ∈ groupByLabels labels knees) :
    ∃ k, rankPick score c = some k := by
  have hne := groups_nonempty labels knees c hc
  by_cases hl : 1 < c.length
  · rw [rankPick_of_lt hl]
    exact pickByRank_some (hs c) hne
  · rw [rankPick_of_le (Nat.not_lt.1 hl)]
    exact ⟨c.head hne, List.head?_eq_some_head hne⟩

/-- **C12 (main).** With at least two knees the output has exactly one entry per cluster, in
cluster order; entry `i` is a member of cluster `i`, and in a multi-member cluster it is a member
whose score is maximal in that cluster. -/
theorem clusterFilter_one_per_cluster (score : List Nat → List Rat) (labels knees : List Nat)
    (hs : ∀ c, (score c).length = c.length) (h2 : 2 ≤ knees.length) :
    let G := groupByLabels labels knees
    let out := clusterFilter score labels knees
    out.length = G.length ∧
      ∀ i, i < G.length → ∃ k, out[i]? = some k ∧ k ∈ G[i]?.getD [] ∧
        ((G[i]?.getD []).length > 1 → ∃ p, p < (G[i]?.getD []).length ∧
          (G[i]?.getD [])[p]? = some k ∧
          ∀ j, j < (G[i]?.getD []).length →
            (score (G[i]?.getD []))[j]?.getD 0 ≤ (score (G[i]?.getD []))[p]?.getD 0) := by
  intro G out
  obtain ⟨hlen, hget⟩ :=
    filterMap_all_some (rankPick score) G fun c hc => rankPick_some score hs hc
  have hout : out = G.filterMap (rankPick score) :=
    (clusterFilter_eq score labels knees).trans (if_neg (Nat.not_le.2 h2))
  rw [hout]
  refine ⟨hlen, fun i hi => ?_⟩
  obtain ⟨k, hki, hk⟩ := hget i hi
  refine ⟨k, hki, rankPick_mem hk, fun hgt => ?_⟩
  rw [rankPick_of_lt hgt] at hk
  exact pickByRank_max (hs _) hk

theorem pick_groups_sublist (f : List Nat → Option Nat) (hf : ∀ c k, f c = some k → k ∈ c)
    (labels knees : List Nat) (h : labels.length = knees.length) :
    ((groupByLabels labels knees).filterMap f).Sublist knees := by
  have := filterMap_pick_sublist f hf (groupByLabels labels knees)
  rwa [groups_flatten labels knees h] at this

/-- the output is a sublist of the knees (order kept, no knee invented or duplicated) -/
theorem clusterFilter_sublist (score : List Nat → List Rat) (labels knees : List Nat)
    (h : labels.length = knees.length) :
    (clusterFilter score labels knees).Sublist knees := by
  rw [clusterFilter_eq]
  split
  · exact List.Sublist.refl _
  · exact pick_groups_sublist _ (fun _ _ => rankPick_mem) labels knees h

theorem clusterFilter_strict (score : List Nat → List Rat) (labels knees : List Nat)
    (h : labels.length = knees.length) (hk : knees.Pairwise (· < ·)) :
    (clusterFilter score labels knees).Pairwise (· < ·) :=
  List.Pairwise.sublist (clusterFilter_sublist score labels knees h) hk

theorem clusterFilter_small (score : List Nat → List Rat) (labels knees : List Nat)
    (h1 : knees.length ≤ 1) : clusterFilter score labels knees = knees := by
  rw [clusterFilter_eq, if_pos h1]

/-- with at least two knees the hull filter is `hullPick` applied to every cluster -/
theorem clusterFilterHull_filterMap (hull : List Nat) (herr : List Nat → Nat → Rat)
    (labels knees : List Nat) (h2 : 2 ≤ knees.length) :
    clusterFilterHull hull herr labels knees =
      (groupByLabels labels knees).filterMap (hullPick hull herr) := by
  rw [clusterFilterHull_eq, if_neg (Nat.not_le.2 h2)]

/-- a picked member is a hull index when the cluster is a singleton -/
theorem hullPick_singleton (hull : List Nat) (herr : List Nat → Nat → Rat) (a : Nat) :
    hullPick hull herr [a] = if a ∈ hull then some a else none := by
  simp [hullPick]

/-- what hull mode picks from a cluster is a member, and the cluster's span holds a hull index -/
theorem hullPick_some {hull : List Nat} {herr : List Nat → Nat → Rat} {c : List Nat} {k : Nat}
    (h : hullPick hull herr c = some k) :
    k ∈ c ∧ ∃ x ∈ hull, c.head?.getD 0 ≤ x ∧ x ≤ c.getLast?.getD 0 := by
  rcases c with _ | ⟨a, _ | ⟨b, t⟩⟩
  · cases h
  · rw [hullPick_singleton, Option.ite_none_right_eq_some] at h
    obtain ⟨ha, rfl⟩ := h.imp_right Option.some.inj
    exact ⟨List.mem_singleton_self _, a, ha, Nat.le_refl _, Nat.le_refl _⟩
  · rw [hullPick,
      if_pos (show (a :: b :: t).length > 1 from Nat.succ_lt_succ (Nat.succ_pos _))] at h
    dsimp only at h
    -- only whether the window `w` of hull indices inside the span is empty matters here; when it is
    -- not, its first member is the witness
    generalize hw : hull.filter _ = w at h
    cases w with
    | nil => cases h
    | cons x _ =>
      have hx := List.mem_filter.1 (hw ▸ List.mem_cons_self (a := x))
      -- the two answering branches pick by rank, hence a member
      exact ⟨of_ite_eq_some pickByRank_mem (of_ite_eq_some pickByRank_mem (b := none) nofun) h,
        x, hx.1, of_decide_eq_true hx.2⟩

/-- at most one member per cluster: the output is `G.filterMap f` for a picker `f` that returns
nothing or a member of its argument -/
theorem clusterFilterHull_at_most_one (hull : List Nat) (herr : List Nat → Nat → Rat)
    (labels knees : List Nat) (h2 : 2 ≤ knees.length) :
    ∃ f : List Nat → Option Nat, (∀ c k, f c = some k → k ∈ c) ∧
      clusterFilterHull hull herr labels knees = (groupByLabels labels knees).filterMap f :=
  ⟨hullPick hull herr, fun _ _ h => (hullPick_some h).1,
    clusterFilterHull_filterMap hull herr labels knees h2⟩

/-- a cluster whose span `[first, last]` contains no hull index contributes nothing -/
theorem clusterFilterHull_needs_hull (hull : List Nat) (herr : List Nat → Nat → Rat)
    (c : List Nat)
    (hno : ∀ x ∈ hull, ¬ (c.head?.getD 0 ≤ x ∧ x ≤ c.getLast?.getD 0)) :
    hullPick hull herr c = none := by
  cases hp : hullPick hull herr c with
  | none => rfl
  | some k =>
    obtain ⟨-, x, hx, hspan⟩ := hullPick_some hp
    exact absurd hspan (hno x hx)

theorem clusterFilterHull_sublist (hull : List Nat) (herr : List Nat → Nat → Rat)
    (labels knees : List Nat) (h : labels.length = knees.length) :
    (clusterFilterHull hull herr labels knees).Sublist knees := by
  rw [clusterFilterHull_eq]
  split
  · exact List.Sublist.refl _
  · exact pick_groups_sublist _ (fun _ _ hp => (hullPick_some hp).1) labels knees h

theorem clusterFilterHull_strict (hull : List Nat) (herr : List Nat → Nat → Rat)
    (labels knees : List Nat) (h : labels.length = knees.length)
    (hk : knees.Pairwise (· < ·)) :
    (clusterFilterHull hull herr labels knees).Pairwise (· < ·) :=
  List.Pairwise.sublist (clusterFilterHull_sublist hull herr labels knees h) hk

theorem clusterFilterCorners_sublist (area : List Nat → List Rat) (labels knees : List Nat)
    (h : labels.length = knees.length) :
    (clusterFilterCorners area labels knees).Sublist knees :=
  pick_groups_sublist _ (fun _ _ => List.mem_of_getElem?) labels knees h

theorem cornerPick_some (area : List Nat → List Rat) (ha : ∀ c, (area c).length = c.length)
    {labels knees c : List Nat} (hc : c ∈ groupByLabels labels knees) :
    ∃ k, cornerPick area c = some k := by
  have hlt : argmaxIdx (area c) < c.length := ha c ▸ argmaxIdx_lt_length
    (ha c ▸ List.length_pos_iff.2 (groups_nonempty labels knees c hc))
  exact ⟨c[argmaxIdx (area c)], by simp [cornerPick, hlt]⟩

/-- exactly one entry per cluster -/
theorem clusterFilterCorners_length (area : List Nat → List Rat) (labels knees : List Nat)
    (ha : ∀ c, (area c).length = c.length) :
    (clusterFilterCorners area labels knees).length = (groupByLabels labels knees).length := by
  rw [clusterFilterCorners_eq]
  exact (filterMap_all_some (cornerPick area) _ fun c hc => cornerPick_some area ha hc).1

/-- entry `i` is the member of cluster `i` at position `p = argmaxIdx (area cluster)`, and `p` is
the *first* maximiser of the corner score (numpy.argmax) -/
theorem clusterFilterCorners_max (area : List Nat → List Rat) (labels knees : List Nat)
    (ha : ∀ c, (area c).length = c.length) :
    let G := groupByLabels labels knees
    let out := clusterFilterCorners area labels knees
    ∀ i, i < G.length → ∃ k p, p = argmaxIdx (area (G[i]?.getD [])) ∧
      p < (G[i]?.getD []).length ∧ out[i]? = some k ∧ (G[i]?.getD [])[p]? = some k ∧
      (∀ j, j < (G[i]?.getD []).length →
        (area (G[i]?.getD []))[j]?.getD 0 ≤ (area (G[i]?.getD []))[p]?.getD 0) ∧
      (∀ j, j < p → (area (G[i]?.getD []))[j]?.getD 0 < (area (G[i]?.getD []))[p]?.getD 0) := by
  intro G out i hi
  obtain ⟨k, hki, hk⟩ :=
    (filterMap_all_some (cornerPick area) G fun c hc => cornerPick_some area ha hc).2 i hi
  exact ⟨k, _, rfl, (List.getElem?_eq_some_iff.1 hk).1, hki, hk,
    fun j hj => argmaxIdx_ge j (by rw [ha]; exact hj), fun j hj => argmaxIdx_first j hj⟩

/-! Non-vacuity: the models compute the expected values on concrete inputs. -/

example : groupByLabels [0, 0, 1, 2, 2, 2] [3, 5, 8, 9, 12, 20] = [[3, 5], [8], [9, 12, 20]] := by
  decide +kernel
/-- score = the knee index itself: the largest member of every cluster wins -/
example : clusterFilter (fun c => c.map fun k => ((k : Int) : Rat))
    [0, 0, 1, 2, 2, 2] [3, 5, 8, 9, 12, 20] = [5, 8, 20] := by decide +kernel
/-- decreasing score: the smallest member of every cluster wins -/
example : clusterFilter (fun c => c.map fun k => -((k : Int) : Rat))
    [0, 0, 1, 2, 2, 2] [3, 5, 8, 9, 12, 20] = [3, 8, 9] := by decide +kernel
/-- constant score: stable rank, the last of the ties has the highest rank -/
example : clusterFilter (fun c => c.map fun _ => (1 : Rat))
    [0, 0, 1, 2, 2, 2] [3, 5, 8, 9, 12, 20] = [5, 8, 20] := by decide +kernel
example : clusterFilter (fun c => c.map fun _ => (1 : Rat)) [0] [7] = [7] := by decide +kernel
/-- hull mode: cluster `[8]` contains no hull point and is dropped; `[3, 5]` has one hull point
(picked); `[9, 12, 20]` has two, the one with the smaller error (9) wins -/
example : clusterFilterHull [3, 9, 20] (fun _ j => ((j : Int) : Rat))
    [0, 0, 1, 2, 2, 2] [3, 5, 8, 9, 12, 20] = [3, 9] := by decide +kernel
/-- hull mode: the first two clusters have no hull index in their span -/
example : clusterFilterHull [9, 12, 20] (fun _ j => if j = 12 then 1 else 5)
    [0, 0, 1, 2, 2, 2] [3, 5, 8, 9, 12, 20] = [12] := by decide +kernel
example : hullPick [3, 9, 20] (fun _ j => ((j : Int) : Rat)) [8] = none := by decide +kernel
/-- corner variant: first maximiser on ties (12 before 20) -/
example : clusterFilterCorners (fun c => c.map fun k => if k = 12 ∨ k = 20 then 7 else 1)
    [0, 0, 1, 2, 2, 2] [3, 5, 8, 9, 12, 20] = [3, 8, 12] := by decide +kernel
/-- the hypotheses of the main theorems hold on the example -/
example : ([0, 0, 1, 2, 2, 2] : List Nat).length = ([3, 5, 8, 9, 12, 20] : List Nat).length
    ∧ 2 ≤ ([3, 5, 8, 9, 12, 20] : List Nat).length
    ∧ ([3, 5, 8, 9, 12, 20] : List Nat).Pairwise (· < ·) := by decide +kernel

end Knee
