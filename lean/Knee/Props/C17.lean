import Knee.Lemmas.Geometry
import Knee.Lemmas.Rank
import Mathlib.Data.List.Perm.Subperm
import Mathlib.Algebra.Order.Field.Basic
/-!
# C17 — the exact geometric primitives compute what their names say

Models (Layer N, exact over ℚ, squares instead of square roots): `Knee.perpSq`, `Knee.shortestSq`
(linear_fit.perpendicular_distance_points / shortest_distance_points), `Knee.rect`,
`Knee.rectOverlap` (knee_ranking.rect / rect_overlap), `Knee.mengerSq` (menger.menger_curvature),
`Knee.triArea` (postprocessing.triangle_area), `Knee.rankOf` (knee_ranking.rank).
-/
namespace Knee

/-- `perpendicular_distance_points` (squared) is the minimum of the squared distance over the whole
line through `a`, `b` (`perpSq_attained`: attained).  Also true for `a = b` (`perpSq p a a = 0`);
the statement keeps `hab`, like `perpSq_attained`. -/
theorem perpSq_le (p a b : P2) (hab : a ≠ b) (lam : Rat) :
    perpSq p a b ≤ distSqAt p a b lam := by
  apply le_of_mul_le_mul_right _ (normSq_sub_pos hab)
  rw [perpSq_mul_normSq p a b hab, distSqAt_mul_normSq]
  exact le_add_of_nonneg_right (mul_self_nonneg _)

theorem perpSq_attained (p a b : P2) (hab : a ≠ b) :
    ∃ lam, distSqAt p a b lam = perpSq p a b := by
  have hN := normSq_sub_pos hab
  refine ⟨dot (sub p a) (sub b a) / normSq (sub b a), ?_⟩
  apply mul_right_cancel₀ hN.ne'
  rw [perpSq_mul_normSq p a b hab, distSqAt_mul_normSq, div_mul_cancel₀ _ hN.ne']
  ring

/-- `shortest_distance_points` (squared) is the minimum over the closed segment, `lam ∈ [0, 1]`
(`shortestSq_attained`: attained) -/
theorem shortestSq_le (p a b : P2) (hab : a ≠ b) (lam : Rat) (h0 : 0 ≤ lam) (h1 : lam ≤ 1) :
    shortestSq p a b ≤ distSqAt p a b lam := by
  have hN := normSq_sub_pos hab
  apply le_of_mul_le_mul_right _ hN
  rw [shortestSq_mul_normSq p a b hab, distSqAt_mul_normSq]
  have h := mul_self_le_mul_self (intervalDist_nonneg _ _)
    (intervalDist_le (d := dot (sub p a) (sub b a)) (mul_nonneg h0 hN.le)
      (mul_le_of_le_one_left hN.le h1))
  rw [abs_mul_abs_self] at h
  exact (add_le_add_left h _).trans_eq (add_comm _ _)

/-- attained at the projection parameter `d / N` clamped to `[0, 1]` -/
theorem shortestSq_attained (p a b : P2) (hab : a ≠ b) :
    ∃ lam, 0 ≤ lam ∧ lam ≤ 1 ∧ distSqAt p a b lam = shortestSq p a b := by
  have hN := normSq_sub_pos hab
  refine ⟨max 0 (min (normSq (sub b a)) (dot (sub p a) (sub b a))) / normSq (sub b a),
    div_nonneg (le_max_left _ _) hN.le,
    (div_le_one hN).2 (max_le hN.le (min_le_left _ _)), mul_right_cancel₀ hN.ne' ?_⟩
  rw [shortestSq_mul_normSq p a b hab, distSqAt_mul_normSq, div_mul_cancel₀ _ hN.ne',
    ← intervalDist_attained hN.le, abs_mul_abs_self, add_comm]

theorem shortestSq_degenerate (p a : P2) : shortestSq p a a = normSq (sub p a) := by
  simp [shortestSq]

theorem shortestSq_endpoints (a b : P2) : shortestSq a a b = 0 ∧ shortestSq b a b = 0 := by
  by_cases hab : a = b
  · subst hab
    rw [shortestSq_degenerate, normSq_sub_self]
    exact ⟨rfl, rfl⟩
  · have e0 : distSqAt a a b 0 = 0 := by
      simp [distSqAt, normSq, dot, sub]
    have e1 : distSqAt b a b 1 = 0 := by
      simp [distSqAt, normSq, dot, sub]
    constructor
    · exact le_antisymm (e0 ▸ shortestSq_le a a b hab 0 (le_refl _) zero_le_one)
        (shortestSq_nonneg a a b)
    · exact le_antisymm (e1 ▸ shortestSq_le b a b hab 1 zero_le_one (le_refl _))
        (shortestSq_nonneg b a b)

theorem perpSq_le_shortestSq (p a b : P2) (hab : a ≠ b) : perpSq p a b ≤ shortestSq p a b := by
  obtain ⟨lam, _, _, h⟩ := shortestSq_attained p a b hab
  exact h ▸ perpSq_le p a b hab lam

theorem iou_symm (amin amax bmin bmax : Rat × Rat) :
    rectOverlap amin amax bmin bmax = rectOverlap bmin bmax amin amax := by
  rw [rectOverlap_eq, rectOverlap_eq, ovl_comm amin.1, ovl_comm amin.2,
    add_comm (|amax.1 - amin.1| * |amax.2 - amin.2|)]

theorem iou_unit (amin amax bmin bmax : Rat × Rat) :
    0 ≤ rectOverlap amin amax bmin bmax ∧ rectOverlap amin amax bmin bmax ≤ 1 := by
  have hA := ovl_mul_le amin amax bmin bmax
  have hB := ovl_mul_le bmin bmax amin amax
  rw [ovl_comm bmin.1, ovl_comm bmin.2] at hB
  rw [rectOverlap_eq]
  split_ifs with h
  · -- `overlap ≤ A` and `overlap ≤ B` give `overlap ≤ A + B - overlap`
    have hden := le_sub_iff_add_le.2 (add_le_add hA hB)
    exact ⟨div_nonneg h.le (h.le.trans hden), div_le_one_of_le₀ hden (h.le.trans hden)⟩
  · exact ⟨le_rfl, zero_le_one⟩

theorem iou_nonneg (amin amax bmin bmax : Rat × Rat) : 0 ≤ rectOverlap amin amax bmin bmax :=
  (iou_unit amin amax bmin bmax).1

theorem iou_le_one (amin amax bmin bmax : Rat × Rat) : rectOverlap amin amax bmin bmax ≤ 1 :=
  (iou_unit amin amax bmin bmax).2

theorem iou_self (amin amax : Rat × Rat) (h1 : amin.1 < amax.1) (h2 : amin.2 < amax.2) :
    rectOverlap amin amax amin amax = 1 := by
  have hpos : 0 < (amax.1 - amin.1) * (amax.2 - amin.2) :=
    mul_pos (sub_pos.2 h1) (sub_pos.2 h2)
  rw [rectOverlap_eq, ovl_self h1.le, ovl_self h2.le, abs_of_pos (sub_pos.2 h1),
    abs_of_pos (sub_pos.2 h2), if_pos hpos, add_sub_cancel_right, div_self hpos.ne']

theorem iou_disjoint (amin amax bmin bmax : Rat × Rat)
    (h : amax.1 ≤ bmin.1 ∨ bmax.1 ≤ amin.1 ∨ amax.2 ≤ bmin.2 ∨ bmax.2 ≤ amin.2) :
    rectOverlap amin amax bmin bmax = 0 := by
  have : ovl amin.1 amax.1 bmin.1 bmax.1 * ovl amin.2 amax.2 bmin.2 bmax.2 = 0 := by
    rw [← or_assoc] at h
    exact mul_eq_zero.2 (h.imp ovl_disjoint ovl_disjoint)
  rw [rectOverlap_eq, this, if_neg (lt_irrefl 0)]

theorem rect_ordered (p q : Rat × Rat) :
    (rect p q).1.1 ≤ (rect p q).2.1 ∧ (rect p q).1.2 ≤ (rect p q).2.2 := by
  simp only [rect, rmin_eq_min, rmax_eq_max]
  exact ⟨min_le_max, min_le_max⟩

theorem mengerSq_symm_swap12 (f g h : P2) : mengerSq f g h = mengerSq g f h := by
  simp only [mengerSq]
  rw [cross_sub_swap12 f g h, normSq_sub_comm f g, normSq_sub_comm h f, normSq_sub_comm g h]
  ring

theorem mengerSq_symm_swap23 (f g h : P2) : mengerSq f g h = mengerSq f h g := by
  simp only [mengerSq]
  rw [cross_sub_swap23 f g h, normSq_sub_comm h f, normSq_sub_comm g h, normSq_sub_comm f g]
  ring

theorem mengerSq_nonneg (f g h : P2) : 0 ≤ mengerSq f g h := by
  simp only [mengerSq]
  apply div_nonneg
  · rw [mul_assoc]; exact mul_nonneg (by norm_num) (mul_self_nonneg _)
  · exact mul_nonneg (mul_nonneg (normSq_nonneg _) (normSq_nonneg _)) (normSq_nonneg _)

theorem mengerSq_collinear (f g h : P2) (hc : cross (sub g f) (sub h g) = 0) :
    mengerSq f g h = 0 := by
  simp [mengerSq, hc]

theorem mengerSq_zero_iff (f g h : P2) :
    mengerSq f g h = 0 ↔ cross (sub g f) (sub h g) = 0 := by
  refine ⟨fun h0 => ?_, mengerSq_collinear f g h⟩
  by_contra hc
  obtain ⟨hfg, hgh, hhf⟩ := distinct_of_cross_ne_zero hc
  rw [mengerSq, div_eq_zero_iff, mul_assoc] at h0
  rcases h0 with h0 | h0
  · exact hc (mul_self_eq_zero.1 ((mul_eq_zero.1 h0).resolve_left four_ne_zero))
  · exact (mul_pos (mul_pos (normSq_sub_pos hfg) (normSq_sub_pos hgh)) (normSq_sub_pos hhf)).ne' h0

/-- Reciprocal circumradius: for non-collinear `f g h` the (rational) circumcentre `c` is
equidistant from the three points and `mengerSq f g h = 1 / |c - f|²`. -/
theorem mengerSq_eq_inv_circumradiusSq (f g h : P2) (hc : cross (sub g f) (sub h g) ≠ 0) :
    ∃ c : P2, normSq (sub c f) = normSq (sub c g) ∧ normSq (sub c g) = normSq (sub c h)
      ∧ mengerSq f g h * normSq (sub c f) = 1 := by
  obtain ⟨hfg, hgh, hhf⟩ := distinct_of_cross_ne_zero hc
  have hden : normSq (sub g f) * normSq (sub (sub h f) (sub g f)) * normSq (sub h f) ≠ 0 := by
    rw [sub_rel_cancel f g h]
    exact mul_ne_zero (mul_ne_zero (normSq_sub_pos hfg).ne' (normSq_sub_pos hgh).ne')
      (normSq_sub_pos hhf.symm).ne'
  rw [← sub_rel_cancel f g h, cross_sub_self_right] at hc
  obtain ⟨o, e1, e2, e3⟩ := circum_rel hc
  have hcf : sub (f.1 + o.1, f.2 + o.2) f = o :=
    Prod.ext (add_sub_cancel_left _ _) (add_sub_cancel_left _ _)
  -- `o` is the centre relative to `f`
  refine ⟨(f.1 + o.1, f.2 + o.2), ?_, ?_, ?_⟩
  · rw [← sub_rel_cancel f g _, hcf, e1]
  · rw [← sub_rel_cancel f g _, ← sub_rel_cancel f h _, hcf, ← e1, e2]
  · rw [mengerSq, ← sub_rel_cancel f g h, cross_sub_self_right, normSq_sub_comm f h, hcf,
      div_mul_eq_mul_div, e3, div_self hden]

theorem triArea_def (p0 p1 p2 : P2) : triArea p0 p1 p2 = cross (sub p1 p0) (sub p2 p0) / 2 := by
  simp only [triArea, cross, sub]
  ring

theorem rankOf_orders (v : List Rat) (i j : Nat) (hi : i < v.length) (hj : j < v.length) :
    (rankOf v)[i]?.getD 0 < (rankOf v)[j]?.getD 0 → v[i]?.getD 0 ≤ v[j]?.getD 0 := by
  rw [rankOf_getD v hi, rankOf_getD v hj]
  intro h
  by_contra hlt
  exact absurd (rk_lt_of_lt v hj (not_le.1 hlt)) (Nat.lt_asymm h)

/-- ties are ranked by position: the model's choice; `knee_ranking.rank` uses `argsort()` with NumPy's
default sort, whose order on equal keys is unspecified (the check compares ties relationally) -/
theorem rankOf_stable (v : List Rat) (i j : Nat) (hj : j < v.length) (hij : i < j)
    (he : v[i]?.getD 0 = v[j]?.getD 0) : (rankOf v)[i]?.getD 0 < (rankOf v)[j]?.getD 0 := by
  have hi : i < v.length := Nat.lt_trans hij hj
  rw [rankOf_getD v hi, rankOf_getD v hj]
  exact rk_lt_of_rkLt v hi ((rkLt_iff v i j).2 (Or.inr ⟨he, hij⟩))

theorem rankOf_injective (v : List Rat) (i j : Nat) (hi : i < v.length) (hj : j < v.length)
    (h : (rankOf v)[i]?.getD 0 = (rankOf v)[j]?.getD 0) : i = j := by
  rw [rankOf_getD v hi, rankOf_getD v hj] at h
  exact rk_injective v hi hj h

/-- `knee_ranking.rank` returns a permutation of `0 … n-1` -/
theorem rankOf_perm (v : List Rat) : (rankOf v).Perm (List.range v.length) := by
  apply List.Subperm.perm_of_length_le
  · exact List.subperm_of_subset (rankOf_nodup v)
      (fun r hr => List.mem_range.2 (rankOf_lt v r hr))
  · simp [rankOf_length]

example : shortestSq (0, 1) (0, 0) (2, 0) = 1 := by decide +kernel
example : shortestSq (3, 4) (0, 0) (0, 0) = 25 := by decide +kernel
example : perpSq (3, 1) (0, 0) (2, 0) = 1 := by decide +kernel
/-- beyond the end of the segment the two distances differ -/
example : shortestSq (3, 1) (0, 0) (2, 0) = 2 := by decide +kernel
example : distSqAt (3, 1) (0, 0) (2, 0) 1 = 2 := by decide +kernel
/-- two 2×2 squares sharing a unit square: 1 / (4 + 4 - 1) -/
example : rectOverlap (0, 0) (2, 2) (1, 1) (3, 3) = 1 / 7 := by decide +kernel
example : rectOverlap (0, 0) (1, 1) (1 / 4, 1 / 2) (5 / 4, 3 / 2) = 3 / 13 := by decide +kernel
example : rectOverlap (0, 0) (1, 1) (1, 0) (2, 1) = 0 := by decide +kernel
example : rect (3, 0) (1, 2) = ((1, 0), (3, 2)) := by decide +kernel
example : cornerIoU (0, 0) (1, 2) (3, 3) = 1 / 9 := by decide +kernel
/-- right triangle with legs 1: circumradius² = 1/2, curvature² = 2 -/
example : mengerSq (0, 0) (1, 0) (0, 1) = 2 := by decide +kernel
example : cross (sub ((1, 0) : P2) (0, 0)) (sub (0, 1) (1, 0)) ≠ 0 := by decide +kernel
example : mengerSq (0, 0) (1, 1) (2, 2) = 0 := by decide +kernel
example : rankOf [3, 1, 2] = [2, 0, 1] := by decide +kernel
/-- ties are broken by position -/
example : rankOf [2, 1, 2, 1] = [2, 0, 3, 1] := by decide +kernel
example : triArea (0, 0) (1, 0) (0, 1) = 1 / 2 := by decide +kernel

end Knee
