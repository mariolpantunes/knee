import Knee.Generated.LinkTable
/-!
# C20 (b) — every name, module attribute and intra-package call signature resolves

`Knee/Generated/LinkTable.lean` is regenerated from `/repo/src/kneeliverse` on every run by the
translator `harness/linkgraph.py` (CPython `ast` + `symtable` for scoping, introspection of the
installed modules for `dir()` and signatures).  The *decision* is made here, by the kernel
(`decide +kernel`, no extra axiom): the theorem `Knee.Generated.all_resolve` is re-proved against
the table generated in this run.  `subsetSorted_sound` turns its two subset checks into membership
statements; the call check stays the Boolean `callOkIn` (`Model/Link.lean`).  (C20 (a) — purity,
determinism, layout independence — is decided by observation, see DESIGN.md.)
-/
namespace Knee

/-- A `true` is right for any two lists; only completeness of the merge scan needs them ascending. -/
theorem subsetSorted_sound : ∀ (ds rs : List Nat), subsetSorted rs ds = true → ∀ r ∈ rs, r ∈ ds := by
  intro ds rs
  fun_induction subsetSorted rs ds with
  | case1 => exact fun _ _ h => nomatch h
  | case2 => exact fun h => nomatch h
  | case3 r rs d ds _ ih => exact fun h x hx => List.mem_cons_of_mem _ (ih h x hx)
  | case4 rs d ds _ ih =>
    exact fun h x hx => (List.mem_cons.1 hx).elim (· ▸ List.mem_cons_self)
      fun hx => List.mem_cons_of_mem _ (ih h x hx)
  | case5 => exact fun h => nomatch h

/-- **C20 (b).** For the table generated in this run: every global name a scope loads is bound at module level
or is a builtin; every attribute asked of an imported module (or of an attribute of one) exists on the
installed object; every intra-package call site matches its callee's signature (positional count,
keyword names, required parameters) — so no code path can fail with NameError, AttributeError on a
module attribute, or an arity TypeError — apart from the call sites listed as known findings, which
are proved to be arity errors (`Knee.Generated.known_bad_really_bad`). -/
theorem every_reference_resolves :
    (∀ r ∈ Generated.nameRefs, r ∈ Generated.nameDefs) ∧
    (∀ r ∈ Generated.attrRefs, r ∈ Generated.attrDefs) ∧
    (∀ c ∈ Generated.calls, callOkIn Generated.sigs c = true) := by
  have h := Generated.all_resolve
  simp only [linkOk, Bool.and_eq_true] at h
  obtain ⟨⟨h1, h2⟩, h3⟩ := h
  exact ⟨subsetSorted_sound _ _ h1, subsetSorted_sound _ _ h2, fun c hc => List.all_eq_true.mp h3 c hc⟩

/-- the known-finding call sites are genuine arity errors -/
theorem known_findings_are_arity_errors :
    ∀ c ∈ Generated.knownBadCalls, callOkIn Generated.sigs c = false :=
  fun c hc => by simpa using List.all_eq_true.mp Generated.known_bad_really_bad c hc

/-! Non-vacuity: the table is not empty, and the checker rejects a broken table. -/
example : Generated.nameRefs.length > 100 ∧ Generated.attrRefs.length > 50 ∧ Generated.calls.length > 100 := by decide +kernel
example : subsetSorted [3, 7] [1, 3, 5, 8] = false := by decide +kernel
example : callOk ⟨1, [10, 11, 12, 13], 4, false, false, [], []⟩ ⟨1, 3, []⟩ = false := by decide +kernel

end Knee
