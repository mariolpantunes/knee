import Knee.Lemmas.EvalTrace
import Knee.Props.Invariance
import Knee.Lemmas.Knees2
import Knee.Props.C16
/-!
# X03 — exact-rational (Layer N) models of the remaining evaluation / ranking arithmetic

Over ℚ and for ALL inputs; the per-gap `linear_r2` of `accuracy_trace` is an arbitrary oracle `coef : Nat → Nat → Rat`, `atan` an
arbitrary function.  `ptAt v i` = `v[i]`, `gapsOf knees` = `(0,k₀), (k₀,k₁), …`, `lastKnee knees` = `knees[-1]`.  Monotone curves are
given in index form (`∀ i j, i ≤ j → j < xs.length → ptAt xs i ≤ ptAt xs j`); `getD_rel_of_pairwise` and `le_of_strict` give it
from `List.Pairwise`.
-/
namespace Knee

/-! ## 1. `evaluation.accuracy_trace` -/

/-- **IndexError.**  The call raises exactly when `kneesOk` fails. -/
theorem accTrace_eq_none_iff (coef : Nat → Nat → Rat) (xs ys : List Rat) (knees : List Nat) :
    accTrace coef xs ys knees = none ↔ kneesOk xs.length knees = false := by
  unfold accTrace; split_ifs with h <;> simp [h]

/-- Non-decreasing in-range knee lists (repeats allowed, a knee at index 0 or n-1 allowed) are accepted. -/
theorem kneesOk_of_sorted (n : Nat) (knees : List Nat) (hne : knees ≠ []) (hn : ∀ k ∈ knees, k < n)
    (hk : knees.Pairwise (· ≤ ·)) : kneesOk n knees = true :=
  (kneesOk_iff n knees).2 ⟨hne, hn, gapsOf_le hk⟩

/-- Which output is undefined (went through a division by zero), exactly. -/
theorem accTrace_undefined_iff (coef : Nat → Nat → Rat) (xs ys : List Rat) (knees : List Nat) (r : AccTrace)
    (h : accTrace coef xs ys knees = some r) :
    (r.avgX = none ↔ extent xs = 0) ∧ (r.avgY = none ↔ extent ys = 0) ∧
    (r.avgSlope = none ↔ listMax (gapSlopes xs ys knees) = 0) ∧
    (r.avgCoef = none ↔ listMax (gapCoefs coef knees) = 0) ∧
    (r.cost = none ↔ extent xs = 0 ∨ extent ys = 0 ∨ listMax (gapSlopes xs ys knees) = 0 ∨
        listMax (gapCoefs coef knees) = 0 ∨ ∃ p, accP coef xs ys knees = some p ∧ meanQ p = 0) := by
  obtain ⟨-, rfl⟩ := accTrace_eq_some_iff.1 h
  simp only [Option.map_eq_none_iff]
  refine ⟨divAll_eq_none_iff, divAll_eq_none_iff, divAll_eq_none_iff, accNormCoefs_eq_none_iff, ?_⟩
  rw [accCost_eq_none_iff, accP_eq_none_iff, accNormCoefs_eq_none_iff, or_assoc, or_assoc]
  exact or_congr divAll_eq_none_iff (or_congr divAll_eq_none_iff (or_congr divAll_eq_none_iff Iff.rfl))

/-- **x gaps telescope.**  For non-decreasing `x` and a non-decreasing in-range knee list the gaps `|x[kᵢ₋₁] - x[kᵢ]|`
(first gap from point 0) sum to `x[k_last] - x[0]`. -/
theorem acc_gapX_sum (xs : List Rat) (knees : List Nat)
    (hx : ∀ i j, i ≤ j → j < xs.length → ptAt xs i ≤ ptAt xs j)
    (hk : knees.Pairwise (· ≤ ·)) (hn : ∀ k ∈ knees, k < xs.length) :
    (gapAbs xs knees).sum = ptAt xs (lastKnee knees) - ptAt xs 0 :=
  gapAbs_sum_of_le (gapsOf_rel hx hk hn)

/-- The normalised x gaps: each in `[0, 1]`, summing to `(x[k_last] - x[0]) / |x[n-1] - x[0]|`. -/
theorem acc_normX {xs : List Rat} {knees : List Nat} {l : List Rat}
    (hx : ∀ i j, i ≤ j → j < xs.length → ptAt xs i ≤ ptAt xs j)
    (hk : knees.Pairwise (· ≤ ·)) (hn : ∀ k ∈ knees, k < xs.length)
    (h : accNormX xs knees = some l) :
    l.sum = (ptAt xs (lastKnee knees) - ptAt xs 0) / extent xs ∧ ∀ v ∈ l, 0 ≤ v ∧ v ≤ 1 := by
  refine ⟨by rw [divAll_sum h, acc_gapX_sum xs knees hx hk hn], fun v hv =>
    ⟨divAll_nonneg h (rabs_nonneg _) (gapAbs_nonneg xs knees) v hv, divAll_le_one h (rabs_nonneg _) ?_ v hv⟩⟩
  intro u hu
  obtain ⟨g, hg, rfl⟩ := List.mem_map.1 hu
  exact rabs_sub_le_extent hx (gapsOf_le hk g hg) (hn _ (List.of_mem_zip hg).2)

/-- `average_x = ((x[k_last] - x[0]) / |x[n-1] - x[0]|) / m`, and it lies in `[0, 1]`.  (`hk` already follows from `h`: a call
that completes has `kneesOk`, which orders every consecutive gap; that this makes the list sorted is not proved here.) -/
theorem accTrace_avgX (coef : Nat → Nat → Rat) (xs ys : List Rat) (knees : List Nat) (r : AccTrace) (a : Rat)
    (hx : ∀ i j, i ≤ j → j < xs.length → ptAt xs i ≤ ptAt xs j) (hk : knees.Pairwise (· ≤ ·))
    (h : accTrace coef xs ys knees = some r) (ha : r.avgX = some a) :
    a = (ptAt xs (lastKnee knees) - ptAt xs 0) / extent xs / (knees.length : Rat) ∧ 0 ≤ a ∧ a ≤ 1 := by
  obtain ⟨hok, rfl⟩ := accTrace_eq_some_iff.1 h
  obtain ⟨l, hl, rfl⟩ := Option.map_eq_some_iff.1 ha
  obtain ⟨hs, hr⟩ := acc_normX hx hk ((kneesOk_iff _ _).1 hok).2.1 hl
  exact ⟨by rw [meanQ, hs, divAll_length hl, gapAbs_length], meanQ_unit hr⟩

/-- **y gaps: triangle inequality** (no hypothesis at all): `Σ|Δy| ≥ |y[0] - y[k_last]|`. -/
theorem acc_gapY_sum_ge (ys : List Rat) (knees : List Nat) :
    rabs (ptAt ys 0 - ptAt ys (lastKnee knees)) ≤ (gapAbs ys knees).sum := by
  -- `|Σ Δ| ≤ Σ |Δ|` for the signed gaps, whose sum telescopes
  have h := List.le_sum_of_subadditive rabs rabs_zero.le
    (fun u v => by simp only [rabs_eq_abs]; exact abs_add_le u v) ((gapsOf knees).map fun g => ptAt ys g.1 - ptAt ys g.2)
  rwa [List.map_map, gapsOf_sum_sub_rev (ptAt ys)] at h

/-- `Σ|Δy| = |y[0] - y[k_last]|` for non-decreasing `y` and sorted in-range knees -/
theorem acc_gapY_sum_mono (ys : List Rat) (knees : List Nat)
    (hy : ∀ i j, i ≤ j → j < ys.length → ptAt ys i ≤ ptAt ys j)
    (hk : knees.Pairwise (· ≤ ·)) (hn : ∀ k ∈ knees, k < ys.length) :
    (gapAbs ys knees).sum = rabs (ptAt ys 0 - ptAt ys (lastKnee knees)) := by
  -- the total has the sign of the gaps because a sum of absolute values is `≥ 0`
  have h := acc_gapX_sum ys knees hy hk hn
  rw [h, rabs_sub_of_le (sub_nonneg.1 (h ▸ List.sum_nonneg (gapAbs_nonneg ys knees)))]

/-- `Σ|Δy| = |y[0] - y[k_last]|` for non-increasing `y` and sorted in-range knees -/
theorem acc_gapY_sum_anti (ys : List Rat) (knees : List Nat)
    (hy : ∀ i j, i ≤ j → j < ys.length → ptAt ys j ≤ ptAt ys i)
    (hk : knees.Pairwise (· ≤ ·)) (hn : ∀ k ∈ knees, k < ys.length) :
    (gapAbs ys knees).sum = rabs (ptAt ys 0 - ptAt ys (lastKnee knees)) := by
  have h := gapAbs_sum_of_ge (gapsOf_rel (R := fun a b => b ≤ a) hy hk hn)
  rw [h, rabs_of_nonneg (h ▸ List.sum_nonneg (gapAbs_nonneg ys knees))]

/-- The normalised y gaps are `≥ 0` and sum to at least `|y[0] - y[k_last]| / |y[n-1] - y[0]|` (any curve, any knees). -/
theorem acc_normY {ys : List Rat} {knees : List Nat} {l : List Rat} (h : accNormX ys knees = some l) :
    rabs (ptAt ys 0 - ptAt ys (lastKnee knees)) / extent ys ≤ l.sum ∧ ∀ v ∈ l, 0 ≤ v :=
  ⟨by rw [divAll_sum h]; exact div_le_div_of_nonneg_right (acc_gapY_sum_ge ys knees) (rabs_nonneg _),
   divAll_nonneg h (rabs_nonneg _) (gapAbs_nonneg ys knees)⟩

/-- **slopes / max** lie in `[0, 1]` and some entry equals `1` (whenever the maximum is not 0). -/
theorem acc_normSlopes {xs ys : List Rat} {knees : List Nat} {l : List Rat} (h : accNormSlopes xs ys knees = some l) :
    (∀ v ∈ l, 0 ≤ v ∧ v ≤ 1) ∧ (1 : Rat) ∈ l := by
  have hnn := gapSlopes_nonneg xs ys knees
  obtain ⟨hle, h1⟩ := divAll_listMax_le_one h (listMax_nonneg hnn)
  exact ⟨fun v hv => ⟨divAll_nonneg h (listMax_nonneg hnn) hnn v hv, hle v hv⟩, h1⟩

/-- the slopes are undefined iff every gap is flat (all end-point slopes are 0; in particular for an empty list) -/
theorem acc_normSlopes_none_iff (xs ys : List Rat) (knees : List Nat) :
    accNormSlopes xs ys knees = none ↔ ∀ v ∈ gapSlopes xs ys knees, v = 0 :=
  divAll_eq_none_iff.trans (listMax_eq_zero_iff _ (gapSlopes_nonneg xs ys knees))

/-- **coefficients / max, clipped**: always `≥ 0`; in `[0, 1]` with an entry `1` when the maximum is `> 0`;
but ALL `≥ 1` when the maximum is negative (every R² negative: dividing by the negative maximum flips the signs). -/
theorem acc_normCoefs {coef : Nat → Nat → Rat} {knees : List Nat} {l : List Rat} (h : accNormCoefs coef knees = some l) :
    (∀ v ∈ l, 0 ≤ v) ∧
    (0 < listMax (gapCoefs coef knees) → (∀ v ∈ l, v ≤ 1) ∧ (1 : Rat) ∈ l) ∧
    (listMax (gapCoefs coef knees) < 0 → ∀ v ∈ l, 1 ≤ v) := by
  obtain ⟨r, hr, rfl⟩ := Option.map_eq_some_iff.1 h
  simp only [List.forall_mem_map, clip0_eq_max]
  refine ⟨fun u _ => le_max_right u 0, fun hpos => ⟨fun u hu => ?_, ?_⟩, fun hneg u hu => ?_⟩
  · exact max_le ((divAll_listMax_le_one hr hpos.le).1 u hu) zero_le_one
  · exact List.mem_map.2 ⟨1, (divAll_listMax_le_one hr hpos.le).2, (clip0_eq_max 1).trans (max_eq_left zero_le_one)⟩
  · -- `w ≤ max < 0`: the quotient is `≥ 1`, so clipping does nothing
    have h1 : 1 ≤ u := (divAll_forall hr).2 (fun w hw => (one_le_div_of_neg hneg).2 (le_listMax _ w hw)) u hu
    exact h1.trans (le_max_left u 0)

/-- **p ≥ 0**, for `p = slopes * distances_y * coeffients` (the three normalised arrays, `evaluation.py`) -/
theorem acc_p_nonneg {coef : Nat → Nat → Rat} {xs ys : List Rat} {knees : List Nat} {p : List Rat}
    (h : accP coef xs ys knees = some p) : ∀ v ∈ p, 0 ≤ v := by
  obtain ⟨a, b, c, ha, hb, hc, rfl⟩ := accP_eq_some h
  exact mul3_nonneg (fun v hv => ((acc_normSlopes ha).1 v hv).1) (acc_normY hb).2 (acc_normCoefs hc).1

/-- **cost ≥ 0 when defined, and `> 0` when the x gaps sum to more than 0** (that is, when some x gap is non-zero:
`sum_pos_of_mem` with `gapAbs_nonneg`). -/
theorem acc_cost_nonneg {coef : Nat → Nat → Rat} {xs ys : List Rat} {knees : List Nat} {c : Rat}
    (h : accCost coef xs ys knees = some c) : 0 ≤ c ∧ (0 < (gapAbs xs knees).sum → 0 < c) := by
  obtain ⟨dx, p, hdx, hp, h0, rfl⟩ := accCost_eq_some h
  have hp0 : 0 ≤ meanQ p := meanQ_nonneg p (List.sum_nonneg (acc_p_nonneg hp))
  have he : 0 < extent xs := Rat.lt_of_le_of_ne (rabs_nonneg _) (Ne.symm (divAll_eq_some hdx).1)
  refine ⟨Rat.div_nonneg (meanQ_nonneg dx ?_) hp0, fun hpos => div_pos (meanQ_pos ?_) (Rat.lt_of_le_of_ne hp0 (Ne.symm h0))⟩
  · rw [divAll_sum hdx]; exact Rat.div_nonneg (List.sum_nonneg (gapAbs_nonneg xs knees)) he.le
  · rw [divAll_sum hdx]; exact div_pos hpos he

/-- **cost > 0 when defined**, for strictly increasing `x`, sorted in-range knees and a last knee that is not index 0. -/
theorem acc_cost_pos (coef : Nat → Nat → Rat) (xs ys : List Rat) (knees : List Nat) (c : Rat)
    (hx : ∀ i j, i < j → j < xs.length → ptAt xs i < ptAt xs j)
    (hk : knees.Pairwise (· ≤ ·)) (hn : ∀ k ∈ knees, k < xs.length) (h1 : 1 ≤ lastKnee knees)
    (h : accCost coef xs ys knees = some c) : 0 < c := by
  have hne : knees ≠ [] := by rintro rfl; exact Nat.not_succ_le_zero 0 h1
  apply (acc_cost_nonneg h).2
  rw [acc_gapX_sum xs knees (le_of_strict hx) hk hn]
  exact (Rat.lt_iff_sub_pos _ _).1 (hx 0 (lastKnee knees) h1 (hn _ (lastKnee_mem knees hne)))

/-- **Invariance.**  With the R² oracle unchanged, all five outputs (and their definedness) are the same for the curve
`x ↦ a·x + c`, `y ↦ b·y + d` (`a, b ≠ 0`: change of units, of origin and of direction on both axes). -/
theorem accTrace_affine (coef : Nat → Nat → Rat) {a b : Rat} (ha : a ≠ 0) (hb : b ≠ 0) (c d : Rat)
    (xs ys : List Rat) (knees : List Nat) (hlen : ys.length = xs.length) :
    accTrace coef (xs.map fun u => a * u + c) (ys.map fun u => b * u + d) knees = accTrace coef xs ys knees := by
  refine accTrace_congr_parts (List.length_map _) fun hok => ?_
  obtain ⟨-, hg⟩ := kneesOk_gaps hok
  have hgx : ∀ g ∈ gapsOf knees, g.1 < xs.length ∧ g.2 < xs.length := fun g h => (hg g h).2
  exact ⟨accNormX_affine ha c xs knees hgx, accNormX_affine hb d ys knees (hlen ▸ hgx),
    accNormSlopes_affine ha hb c d xs ys knees hlen hg, rfl⟩

/-- only the oracle values of the gaps actually walked matter, and only when the call completes -/
theorem accTrace_congr {coef coef' : Nat → Nat → Rat} (xs ys : List Rat) (knees : List Nat)
    (h : kneesOk xs.length knees = true → ∀ g ∈ gapsOf knees, coef g.1 g.2 = coef' g.1 g.2) :
    accTrace coef xs ys knees = accTrace coef' xs ys knees :=
  accTrace_congr_parts rfl fun hok =>
    ⟨rfl, rfl, rfl, by rw [accNormCoefs, gapCoefs, List.map_congr_left (h hok)]; rfl⟩

/-- `hne` excludes the gaps that `linear_fit` answers with `(0, 0)` (equal end abscissae, in particular a one-point gap): their
R² is measured against the line `y = 0` and moves with the origin of `y` -/
theorem coefQ_affine {a b : Rat} (ha : a ≠ 0) (hb : b ≠ 0) (c d : Rat) (xs ys : List Rat) {l r : Nat}
    (hlr : l ≤ r) (hrx : r < xs.length) (hry : r < ys.length) (hne : ptAt xs l ≠ ptAt xs r) :
    coefQ (xs.map fun v => a * v + c) (ys.map fun v => b * v + d) l r = coefQ xs ys l r := by
  unfold coefQ
  rw [sliceQ_map, sliceQ_map]
  have hh : (sliceQ xs l r).head?.getD 0 ≠ (sliceQ xs l r).getLast?.getD 0 := by
    rw [sliceQ_head xs hlr, sliceQ_getLast xs hlr hrx]; exact hne
  rw [lineQ_fit_affine ha b c d _ _ (sliceQ_ne_nil ys hlr hry) hh]
  by_cases ht : tssQ (sliceQ ys l r) = 0
  · -- constant `y`: `r2 = 1 - rss` on both sides, and `rss = 0`
    rw [r2Q_affine_const b d _ _ ht, r2Q, if_pos ht, rss_fit_of_tss_zero _ _ ht hh, mul_zero]
  · exact r2Q_affine hb d _ _ ht

/-- **Invariance of the fully exact model** (R² by its Layer-N definition): for a curve whose gaps all have end points with
different `x` (e.g. strictly increasing `x`, strictly increasing knees, first knee ≥ 1), all five outputs of `accuracy_trace`
are invariant under `x ↦ a·x + c`, `y ↦ b·y + d`, `a, b ≠ 0`.  (A one-point gap — a knee at index 0 or a repeated knee — has
`R² = 1 - y²`, which is NOT invariant: see the example below.) -/
theorem accTraceQ_affine_of_ne {a b : Rat} (ha : a ≠ 0) (hb : b ≠ 0) (c d : Rat)
    (xs ys : List Rat) (knees : List Nat) (hlen : ys.length = xs.length)
    (hgap : ∀ g ∈ gapsOf knees, ptAt xs g.1 ≠ ptAt xs g.2) :
    accTraceQ (xs.map fun u => a * u + c) (ys.map fun u => b * u + d) knees = accTraceQ xs ys knees := by
  unfold accTraceQ
  rw [← accTrace_affine (coefQ xs ys) ha hb c d xs ys knees hlen]
  refine accTrace_congr _ _ knees fun hok g hgm => ?_
  rw [List.length_map] at hok
  obtain ⟨hle, -, h2⟩ := (kneesOk_gaps hok).2 g hgm
  exact coefQ_affine ha hb c d xs ys hle h2 (hlen ▸ h2) (hgap g hgm)

/-- the case of positive factors: change of units and of origin on both axes -/
theorem accTraceQ_affine {a b : Rat} (ha : 0 < a) (hb : 0 < b) (c d : Rat)
    (xs ys : List Rat) (knees : List Nat) (hlen : ys.length = xs.length)
    (hgap : ∀ g ∈ gapsOf knees, ptAt xs g.1 ≠ ptAt xs g.2) :
    accTraceQ (xs.map fun u => a * u + c) (ys.map fun u => b * u + d) knees = accTraceQ xs ys knees :=
  accTraceQ_affine_of_ne ha.ne' hb.ne' c d xs ys knees hlen hgap

/-- a knee at index 0: the one-point slice has `R² = 1 - y[0]²` (here `3/4`, the other gap `-25/56`); doubling `y` makes it
`0 = max`, and `average_coeffients` turns from `1/2` into a division by zero -/
example : (accTraceQ [0, 1, 2, 3] [1 / 2, 3, 1, 0] [0, 2]).map (·.avgCoef) = some (some (1 / 2)) ∧
    (accTraceQ [0, 1, 2, 3] [1, 6, 2, 0] [0, 2]).map (·.avgCoef) = some none := by decide +kernel

/-- the monotonicity / sortedness hypotheses of `acc_gapX_sum`, `acc_normX`, `accTrace_avgX`, `rankCornersQ_pos` are satisfiable:
`x = 0, 1, 3, 7`, knees `1, 3` -/
theorem x03_mono_witness : (∀ i j, i < j → j < [(0 : Rat), 1, 3, 7].length → ptAt [0, 1, 3, 7] i < ptAt [0, 1, 3, 7] j) ∧
    [1, 3].Pairwise (· < ·) ∧ (∀ k ∈ [1, 3], k < [(0 : Rat), 1, 3, 7].length) :=
  ⟨fun _ _ hij hj => getD_rel_of_pairwise (by decide) hij hj, by decide, by decide⟩

example : (gapAbs [0, 1, 3, 7] [1, 3]).sum = 7 := by
  rw [acc_gapX_sum [0, 1, 3, 7] [1, 3] (le_of_strict x03_mono_witness.1) (by decide) x03_mono_witness.2.2]
  decide +kernel

/-- Non-vacuity / concrete instance (points (0,5),(1,3),(2,2),(3,3/2),(4,6/5),(5,11/10), knees 1 and 3, oracle R² values 1 and 3/4):
every output defined; `average_x = 3/10`. -/
example : (accTrace (fun l _ => if l = 0 then 1 else 3 / 4) [0, 1, 2, 3, 4, 5] [5, 3, 2, 3 / 2, 6 / 5, 11 / 10] [1, 3]).map (·.avgX)
    = some (some (3 / 10)) := by decide +kernel
example : ((accTraceQ [0, 1, 2, 3, 4, 5] [5, 3, 2, 3 / 2, 6 / 5, 11 / 10] [1, 3]).map fun r => r.cost.isSome) = some true := by
  decide +kernel
/-- flat curve: every slope is 0 and `total_y = 0`, so `average_y`, `average_slope`, `cost` are undefined -/
example : accTraceQ [0, 1, 2, 3] [1, 1, 1, 1] [1, 2] = some ⟨some (1 / 3), none, none, some 1, none⟩ := by decide +kernel
/-- IndexError: empty list, backward gap, out-of-range knee -/
example : accTraceQ [0, 1, 2, 3] [1, 1, 1, 1] [] = none ∧ accTraceQ [0, 1, 2, 3] [1, 1, 1, 1] [3, 2] = none
    ∧ accTraceQ [0, 1, 2, 3] [1, 1, 1, 1] [4] = none ∧ (accTraceQ [0, 1, 2, 3] [1, 1, 1, 1] [2, 2]).isSome = true := by decide +kernel
/-- ODDITY: all R² negative (zig-zag curve): the normalised coefficients are `≥ 1`, not clipped (R² = -1/2, -49/153 ↦ 153/98, 1; `average_coeffients = 251/196 > 1`). -/
example : ((accTraceQ [0, 1, 2, 3, 4, 5] [0, 5, 0, 7, 0, 1] [2, 5]).map (·.avgCoef)) = some (some (251 / 196)) := by decide +kernel

/-! ## 2. `postprocessing.rank_corners` -/

/-- The ranks sum to `x[k_last] - x[0]` — for ANY in-range knee list and any `x` (pure telescoping). -/
theorem rankCornersQ_sum (xs : List Rat) (knees : List Nat) (r : List Rat) (h : rankCornersQ xs knees = some r) :
    r.sum = ptAt xs (lastKnee knees) - ptAt xs 0 := by
  obtain ⟨-, rfl⟩ := rankCornersQ_eq_some_iff.1 h
  exact gapsOf_sum_sub (ptAt xs) knees

theorem rankCornersQ_length (xs : List Rat) (knees : List Nat) (r : List Rat) (h : rankCornersQ xs knees = some r) :
    r.length = knees.length := by
  obtain ⟨-, rfl⟩ := rankCornersQ_eq_some_iff.1 h
  rw [List.length_map, gapsOf_length]

/-- IndexError exactly for an empty list or an out-of-range knee -/
theorem rankCornersQ_eq_none_iff (xs : List Rat) (knees : List Nat) :
    rankCornersQ xs knees = none ↔ knees = [] ∨ ∃ k ∈ knees, xs.length ≤ k := by
  -- no list is returned iff the guard of `rankCornersQ_eq_some_iff` fails
  rw [← Option.not_isSome_iff_eq_none, Option.isSome_iff_exists]
  simp only [rankCornersQ_eq_some_iff, exists_and_left, exists_eq, and_true]
  rw [not_and_or, not_not]
  simp only [not_forall, not_lt, exists_prop]

/-- Strictly increasing `x`, strictly increasing knees: every rank after the first is `> 0`, the first is `≥ 0`,
and `> 0` too when the first knee is not index 0. -/
theorem rankCornersQ_pos (xs : List Rat) (knees : List Nat) (r : List Rat)
    (hx : ∀ i j, i < j → j < xs.length → ptAt xs i < ptAt xs j)
    (hk : knees.Pairwise (· < ·)) (h : rankCornersQ xs knees = some r) :
    (∀ v ∈ r, 0 ≤ v) ∧ (∀ v ∈ r.drop 1, 0 < v) ∧ ((∀ k ∈ knees, 1 ≤ k) → ∀ v ∈ r, 0 < v) := by
  obtain ⟨⟨hne, hn⟩, rfl⟩ := rankCornersQ_eq_some_iff.1 h
  -- all ranks walk the chain `0 :: knees` (strict when every knee is `≥ 1`), those after the first the chain `knees`
  refine ⟨List.forall_mem_map.2 fun g hg => (Rat.le_iff_sub_nonneg _ _).1 (gapsOf_rel (le_of_strict hx) (hk.imp Nat.le_of_lt) hn g hg), ?_,
    fun h1 => List.forall_mem_map.2 fun g hg => (Rat.lt_iff_sub_pos _ _).1 (chainFrom_rel hx (List.pairwise_cons.2 ⟨h1, hk⟩) hn g hg)⟩
  obtain ⟨k, ks, rfl⟩ := List.exists_cons_of_ne_nil hne
  -- dropping the first rank of `k :: ks` leaves, by computation, the ranks over `chainFrom k ks`
  exact List.forall_mem_map.2 fun g (hg : g ∈ chainFrom k ks) =>
    (Rat.lt_iff_sub_pos _ _).1 (chainFrom_rel hx hk (fun k' hk' => hn k' (List.mem_cons_of_mem _ hk')) g hg)

/-- tie to the oracle-fed list builder of X02 (`rankCorners dxf`, `Model/Knees2.lean`): with exact differences it is this model -/
theorem rankCornersQ_eq_rankCorners (xs : List Rat) (knees : List Nat) (r : List Rat) (h : rankCornersQ xs knees = some r) :
    r = rankCorners (fun k p => ptAt xs k - ptAt xs p) knees := by
  obtain ⟨-, rfl⟩ := rankCornersQ_eq_some_iff.1 h
  exact (rankCornersGo_eq (fun k p => ptAt xs k - ptAt xs p) knees 0).symm

example : rankCornersQ [0, 1, 2, 4, 8] [1, 3, 4] = some [1, 3, 4] := by decide +kernel
/-- backward gaps are accepted (negative ranks); the sum still telescopes -/
example : rankCornersQ [0, 1, 2, 4, 8] [3, 1] = some [4, -3] := by decide +kernel
example : rankCornersQ [0, 1, 2, 4, 8] [] = none ∧ rankCornersQ [0, 1, 2, 4, 8] [5] = none := by decide +kernel

/-! ## 3. `knee_ranking.distance_to_similarity` -/

theorem dist2sim_length (a : List Rat) : (dist2sim a).length = a.length := by simp [dist2sim]

/-- every similarity is `≥ 0` -/
theorem dist2sim_nonneg (a : List Rat) : ∀ s ∈ dist2sim a, 0 ≤ s :=
  List.forall_mem_map.2 fun v hv => (Rat.le_iff_sub_nonneg _ _).1 (le_listMax a v hv)

/-- some similarity is `0` (at a maximum) -/
theorem dist2sim_zero_mem (a : List Rat) (ha : a ≠ []) : (0 : Rat) ∈ dist2sim a := by
  unfold dist2sim
  exact List.mem_map.2 ⟨listMax a, listMax_mem a ha, sub_self _⟩

theorem dist2sim_getElem (a : List Rat) (i : Nat) (hi : i < a.length) :
    (dist2sim a)[i]'(by rw [dist2sim_length]; exact hi) = listMax a - a[i] := by
  simp [dist2sim]

theorem dist2sim_antitone (a : List Rat) (i j : Nat) (hi : i < a.length) (hj : j < a.length) :
    a[i] ≤ a[j] ↔ (dist2sim a)[j]'(by rw [dist2sim_length]; exact hj) ≤ (dist2sim a)[i]'(by rw [dist2sim_length]; exact hi) := by
  rw [dist2sim_getElem a i hi, dist2sim_getElem a j hj, sub_le_sub_iff_left]

/-- applied twice, `distance_to_similarity` gives `a - min a`: for a minimum `m` of `a` the largest similarity is
`max a - m`, and the similarities of the similarities are `v - m` -/
theorem dist2sim_twice (a : List Rat) (ha : a ≠ []) :
    ∃ m ∈ a, (∀ v ∈ a, m ≤ v) ∧ listMax (dist2sim a) = listMax a - m ∧ dist2sim (dist2sim a) = a.map fun v => v - m := by
  -- `m` is the minimum of `a`: `v ↦ max a - v` reverses the order
  obtain ⟨hm, hmin⟩ := listMinQ_spec ha
  have hmax : listMax (dist2sim a) = listMax a - listMinQ a :=
    listMax_eq (List.mem_map_of_mem hm) (List.forall_mem_map.2 fun u hu => sub_le_sub_left (hmin u hu) _)
  refine ⟨_, hm, hmin, hmax, ?_⟩
  rw [dist2sim, hmax, dist2sim, List.map_map]
  exact List.map_congr_left fun v _ => sub_sub_sub_cancel_left _ v (listMax a)

example : dist2sim [1, 3, 2] = [2, 0, 1] ∧ dist2sim (dist2sim [1, 3, 2]) = [0, 2, 1] := by decide +kernel

/-! ## 4. `linear_fit.linear_hv_residuals`, `linear_fit.linear_fit_transform` -/

theorem resFit_nonneg (xs ys : List Rat) : 0 ≤ resFit xs ys := rss_nonneg _ _

/-- the value is the smaller of the two one-sided residual sums (`y` on `x`, `x` on `y`) -/
theorem hvRes_eq_min (xs ys : List Rat) : hvResQ xs ys = min (resFit xs ys) (resFit ys xs) := by
  unfold hvResQ; rw [min_def]

theorem hvRes_nonneg (xs ys : List Rat) : 0 ≤ hvResQ xs ys := by
  rw [hvRes_eq_min]; exact le_min (resFit_nonneg xs ys) (resFit_nonneg ys xs)

theorem hvRes_symm (xs ys : List Rat) : hvResQ xs ys = hvResQ ys xs := by
  rw [hvRes_eq_min, hvRes_eq_min, min_comm]

theorem hvRes_le (xs ys : List Rat) : hvResQ xs ys ≤ resFit xs ys ∧ hvResQ xs ys ≤ resFit ys xs := by
  rw [hvRes_eq_min]; exact ⟨min_le_left _ _, min_le_right _ _⟩

theorem fitQ_of_line (xs : List Rat) (b m : Rat) (h : xs.head?.getD 0 ≠ xs.getLast?.getD 0) :
    fitQ xs (lineQ xs (b, m)) = (b, m) := by
  have hxs : xs ≠ [] := by rintro rfl; exact h rfl
  -- the slope `(x₀ m + b - (xₗ m + b)) / (x₀ - xₗ)` is `m`; then the intercept is `x₀ m + b - m x₀`
  rw [fitQ_of_ne _ h, lineQ, head?_getD_map hxs, getLast?_getD_map hxs, add_sub_add_right_eq_sub, ← sub_mul,
    mul_div_cancel_left₀ _ (sub_ne_zero.2 h), mul_comm m, add_sub_cancel_left]

theorem resFit_collinear (xs : List Rat) (b m : Rat) (h : xs.head?.getD 0 ≠ xs.getLast?.getD 0) :
    resFit xs (lineQ xs (b, m)) = 0 := by
  unfold resFit
  rw [fitQ_of_line xs b m h]
  exact rss_self _

/-- **collinear ⇒ 0**, stated exactly: the points lie on `y = m·x + b` and the first and last `x` differ, or they lie on
`x = m·y + b` and the first and last `y` differ.  (Points on a line whose first and last point COINCIDE are not covered:
see the closed-path example below.) -/
theorem hvRes_collinear (xs ys : List Rat) (b m : Rat)
    (h : (ys = lineQ xs (b, m) ∧ xs.head?.getD 0 ≠ xs.getLast?.getD 0) ∨
         (xs = lineQ ys (b, m) ∧ ys.head?.getD 0 ≠ ys.getLast?.getD 0)) : hvResQ xs ys = 0 := by
  apply le_antisymm _ (hvRes_nonneg xs ys)
  rcases h with ⟨rfl, h⟩ | ⟨rfl, h⟩
  · exact (hvRes_le _ _).1.trans_eq (resFit_collinear xs b m h)
  · exact (hvRes_le _ _).2.trans_eq (resFit_collinear ys b m h)

example : hvResQ [0, 1, 2, 4] [1, 3, 5, 9] = 0 := by decide +kernel
/-- a vertical line (all `x` equal, `y` ends different) is fitted exactly by the x-on-y line -/
example : hvResQ [2, 2, 2] [0, 5, 1] = 0 ∧ resFit [2, 2, 2] [0, 5, 1] = 26 := by decide +kernel
/-- ODDITIES of the degenerate `(0, 0)` fit: a single point `(3, 4)` has "residual" `min(4², 3²) = 9`; a closed path on the
line `y = x` (first = last point) has residual 1 although the points are collinear -/
example : hvResQ [3] [4] = 9 ∧ hvResQ [0, 1, 0] [0, 1, 0] = 1 := by decide +kernel
example : hvResQ [0, 1, 2, 3] [0, 2, 1, 3] = 2 ∧ resFit [0, 1, 2, 3] [0, 2, 1, 3] = 2 := by decide +kernel

theorem fitTransform_length (xs ys : List Rat) : (fitTransformQ xs ys).length = xs.length := lineQ_length _ _

/-- `vertical=False`: the returned line passes through the first and the last point (when their `x` differ) -/
theorem fitTransform_ends (xs ys : List Rat) (x0 xl y0 yl : Rat)
    (hx0 : xs.head? = some x0) (hxl : xs.getLast? = some xl)
    (hy0 : ys.head? = some y0) (hyl : ys.getLast? = some yl) (hne : x0 ≠ xl) :
    (fitTransformQ xs ys).head? = some y0 ∧ (fitTransformQ xs ys).getLast? = some yl :=
  ⟨lineQ_head xs ys x0 xl y0 yl hx0 hxl hy0 hyl hne, lineQ_getLast xs ys x0 xl y0 yl hx0 hxl hy0 hyl hne⟩

/-- `vertical=True`: the returned pair is `(y, ŷ)` or `(x, x̂)` — the fitted coordinate itself with its line (NOT "the x points
and the y_hat values" of the docstring) — and its residual sum is `linear_hv_residuals`. -/
theorem fitTransformV_spec (xs ys : List Rat) :
    ((fitTransformVQ xs ys = (ys, lineQ xs (fitQ xs ys)) ∧ resFit xs ys ≤ resFit ys xs) ∨
     (fitTransformVQ xs ys = (xs, lineQ ys (fitQ ys xs)) ∧ resFit ys xs < resFit xs ys)) ∧
    rssQ (fitTransformVQ xs ys).1 (fitTransformVQ xs ys).2 = hvResQ xs ys := by
  unfold fitTransformVQ hvResQ
  split_ifs with h
  · exact ⟨Or.inl ⟨rfl, h⟩, rfl⟩
  · exact ⟨Or.inr ⟨rfl, not_le.1 h⟩, rfl⟩

example : fitTransformVQ [0, 1, 2, 3] [0, 2, 1, 3] = ([0, 2, 1, 3], [0, 1, 2, 3]) := by decide +kernel
example : fitTransformVQ [2, 2, 2] [0, 5, 1] = ([2, 2, 2], [2, 2, 2]) := by decide +kernel

/-! ## 5. `rdp.compute_cost_coef` -/

/-- **dispatch**: each `Metrics` member yields the corresponding Layer-N metric of `(y, m·x + b)`
(`rmspe`, `rmsle` as squares; `lg` = the logarithm). -/
theorem costCoef_dispatch (lg : Rat → Rat) (xs ys : List Rat) (c : Rat × Rat) :
    costCoefQ lg .r2 xs ys c = r2Q ys (lineQ xs c) ∧
    costCoefQ lg .rmspe xs ys c = rmspeSq ys (lineQ xs c) ∧
    costCoefQ lg .rmsle xs ys c = rmsleSq lg ys (lineQ xs c) ∧
    costCoefQ lg .smape xs ys c = smapeQ ys (lineQ xs c) ∧
    costCoefQ lg .rpd xs ys c = rpdQ ys (lineQ xs c) := ⟨rfl, rfl, rfl, rfl, rfl⟩

/-- ranges: `r2 ≤ 1`, the four error metrics are `≥ 0`, `smape ≤ 2` -/
theorem costCoef_range (lg : Rat → Rat) (kind : MKind) (xs ys : List Rat) (c : Rat × Rat) :
    (kind = .r2 → costCoefQ lg kind xs ys c ≤ 1) ∧ (kind ≠ .r2 → 0 ≤ costCoefQ lg kind xs ys c) ∧
    (kind = .smape → costCoefQ lg kind xs ys c ≤ 2) := by
  refine ⟨?_, ?_, ?_⟩
  · rintro rfl; exact r2_le_one _ _
  · intro h
    cases kind with
    | r2 => exact absurd rfl h
    | rmspe => exact rmspeSq_nonneg _ _
    | rmsle => exact rmsleSq_nonneg lg _ _
    | smape => exact smape_nonneg _ _
    | rpd => exact rpd_nonneg _ _
  · rintro rfl; exact smape_le_two _ _

/-- a curve that IS the line scores perfectly under every member: `r2 = 1`, every error `0` -/
theorem costCoef_perfect (lg : Rat → Rat) (kind : MKind) (xs : List Rat) (c : Rat × Rat) :
    costCoefQ lg kind xs (lineQ xs c) c = if kind = .r2 then 1 else 0 := by
  cases kind with
  | r2 => exact r2_self _
  | rmspe => exact rmspeSq_self _
  | rmsle => exact rmsleSq_self lg _
  | smape => exact smape_self _
  | rpd => exact rpd_self _

/-- with the curve's own end-point line the R² cost is the oracle of `accuracy_trace` on the whole curve -/
theorem costCoef_r2_eq_coefQ (lg : Rat → Rat) (xs ys : List Rat) (hlen : ys.length = xs.length) :
    costCoefQ lg .r2 xs ys (fitQ xs ys) = coefQ xs ys 0 (xs.length - 1) := by
  have e := sliceQ_full ys
  rw [hlen] at e
  rw [coefQ, sliceQ_full xs, e]
  rfl

example : costCoefQ id .smape [0, 1, 2] [1, 2, 5] (1, 2) = 1 / 3 * (2 * 1 / (2 + 3 + epsM)) := by decide +kernel
example : costCoefQ id .r2 [0, 1, 2] [1, 2, 5] (fitQ [0, 1, 2] [1, 2, 5]) = 23 / 26 := by decide +kernel

/-! ## 6. `linear_fit.angle` -/

/-- the division by zero happens exactly for perpendicular lines (`m1·m2 = -1`) -/
theorem angleArg_eq_none_iff (m1 m2 : Rat) : angleArg m1 m2 = none ↔ m1 * m2 = -1 := by
  unfold angleArg
  rw [eq_neg_iff_add_eq_zero, add_comm]
  split_ifs with h <;> simp [h]

theorem angleArg_antisymm (m1 m2 : Rat) : angleArg m2 m1 = (angleArg m1 m2).map fun a => -a := by
  unfold angleArg
  rw [mul_comm m2 m1]
  split_ifs with h
  · rfl
  · rw [Option.map_some, ← neg_div, neg_sub]

/-- zero iff the slopes are equal (equal slopes are never perpendicular: `1 + m² > 0`) -/
theorem angleArg_eq_zero_iff (m1 m2 : Rat) : angleArg m1 m2 = some 0 ↔ m1 = m2 := by
  constructor
  · intro h
    obtain ⟨h0, ha⟩ := angleArg_eq_some h
    exact sub_eq_zero.1 ((div_eq_zero_iff.1 ha.symm).resolve_right h0)
  · rintro rfl
    rw [angleArg, if_neg (add_pos_of_pos_of_nonneg one_pos (mul_self_nonneg m1)).ne', sub_self, zero_div]

theorem angleArg_neg_iff (m1 m2 a : Rat) (h : angleArg m1 m2 = some a) :
    a < 0 ↔ (m1 < m2 ∧ 0 < 1 + m1 * m2) ∨ (m2 < m1 ∧ 1 + m1 * m2 < 0) := by
  obtain ⟨-, rfl⟩ := angleArg_eq_some h
  rw [div_neg_iff, sub_pos, sub_neg, or_comm]

/-- for an ODD arc tangent the angle is antisymmetric: `angle(l2, l1) = -angle(l1, l2)` -/
theorem angle_antisymm (atn : Rat → Rat) (hodd : ∀ a, atn (-a) = -atn a) (m1 m2 : Rat) :
    angleQ atn m2 m1 = (angleQ atn m1 m2).map fun a => -a := by
  unfold angleQ
  rw [angleArg_antisymm m1 m2]
  cases angleArg m1 m2 with
  | none => rfl
  | some a => simp [hodd]

/-- for an odd, strictly increasing arc tangent the angle has the sign of the argument: it is NEGATIVE whenever
`m1 < m2` and `1 + m1·m2 > 0` (e.g. `m1 = 0`, `m2 = 1`: `atan(-1) = -π/4`).  The docstring's range `[0, π/2]` is false. -/
theorem angle_sign (atn : Rat → Rat) (hodd : ∀ a, atn (-a) = -atn a) (hmono : ∀ a b, a < b → atn a < atn b)
    (m1 m2 t : Rat) (h : angleQ atn m1 m2 = some t) :
    (t < 0 ↔ (m1 < m2 ∧ 0 < 1 + m1 * m2) ∨ (m2 < m1 ∧ 1 + m1 * m2 < 0)) ∧ (t = 0 ↔ m1 = m2) := by
  have h0 : atn 0 = 0 := by have := hodd 0; rwa [neg_zero, self_eq_neg] at this
  have hm : StrictMono atn := fun a b => hmono a b
  obtain ⟨a, ha, rfl⟩ := Option.map_eq_some_iff.1 h
  rw [← angleArg_neg_iff m1 m2 a ha, ← angleArg_eq_zero_iff m1 m2, ha, Option.some_inj]
  -- a strictly increasing function with `atn 0 = 0` reflects `< 0` and `= 0`
  have hlt := hm.lt_iff_lt (a := a) (b := 0)
  have heq := hm.injective.eq_iff (a := a) (b := 0)
  rw [h0] at hlt heq
  exact ⟨hlt, heq⟩

/-- concrete: lines of slope 0 and 1 → argument `-1` (angle `-π/4`); swapped → `+1`; perpendicular `2`, `-1/2` → undefined -/
example : angleArg 0 1 = some (-1) ∧ angleArg 1 0 = some 1 ∧ angleArg 2 (-1 / 2) = none ∧ angleArg 3 3 = some 0 := by decide +kernel
/-- the hypotheses of `angle_sign` are satisfiable (`atn = id` is odd and strictly increasing); the value is negative -/
example : angleQ id 0 1 = some (-1) ∧ (∀ a : Rat, id (-a) = -id a) ∧ (∀ a b : Rat, a < b → id a < id b) :=
  ⟨by decide +kernel, fun _ => rfl, fun _ _ h => h⟩

end Knee
