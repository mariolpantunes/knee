import Knee.Lemmas.ElbowIsodata
/-!
# C03-B — DFDT on an exact two-slope elbow

The DFDT detector (`dfdt.knee`) works on the gradient array of the curve.  For an exact two-slope
elbow the gradient array is `elbowG a gmid b s1 s2 = [s1]*a ++ [gmid] ++ [s2]*b` with the corner at
index `a`, where `gmid` (the central-difference gradient at the corner) lies strictly between the two
arm slopes.  Model of the ISODATA threshold: `Knee/Model/Isodata.lean` (exact ℚ, `eps = 1e-6`,
`max_iter = 100`).

The threshold is worked out for ascending slopes (`isodata_up`); descending slopes are the same array
read backwards (`isodataQ_swap`).
-/
namespace Knee

def Between (s1 s2 t : Rat) : Prop := min s1 s2 < t ∧ t < max s1 s2

theorem convex_between (s1 s2 u v : Rat) (hu : 0 < u) (hv : 0 < v) (hs : s1 ≠ s2) :
    Between s1 s2 ((s1 * u + s2 * v) / (u + v)) := by
  unfold Between
  rcases lt_or_gt_of_ne hs with h | h
  · rw [min_eq_left h.le, max_eq_right h.le]
    exact wavg_between h hu hv
  · rw [min_eq_right h.le, max_eq_left h.le, add_comm (s1 * u), add_comm u]
    exact wavg_between h hv hu

/-- `lowMid p lo g hi` is the ISODATA update for the partition
`left = [lo]*p ++ [g]`, `right = [hi]*q` (any `q ≥ 1`). -/
theorem lowMid_eq_means (p q : Nat) (lo g hi : Rat) (hq : 1 ≤ q) :
    lowMid p lo g hi =
      (meanL (List.replicate p lo ++ [g]) + meanL (List.replicate q hi)) / 2 := by
  rw [meanL_replicate_snoc, meanL_replicate q hi hq]
  rfl

/-- `highMid q lo g hi` is the ISODATA update for the partition
`left = [lo]*p` (any `p ≥ 1`), `right = [g] ++ [hi]*q`. -/
theorem highMid_eq_means (p q : Nat) (lo g hi : Rat) (hp : 1 ≤ p) :
    highMid q lo g hi =
      (meanL (List.replicate p lo) + meanL (g :: List.replicate q hi)) / 2 := by
  rw [meanL_cons_replicate, meanL_replicate p lo hp]
  rfl

/-- **C03-B (shape of an update).** From any threshold strictly between the slopes the partition is
never one-sided: the low class holds all copies of the smaller slope, the high class all copies of
the larger slope, and the corner value joins the side `gmid ≤ t` decides. -/
theorem isoStep_elbow (a b : Nat) (g s1 s2 t : Rat) (ha : 1 ≤ a) (hb : 1 ≤ b)
    (ht : Between s1 s2 t) :
    isoStep (elbowG a g b s1 s2) t =
      some (if s1 < s2 then (if g ≤ t then lowMid a s1 g s2 else highMid b s1 g s2)
            else (if g ≤ t then lowMid b s2 g s1 else highMid a s2 g s1)) := by
  unfold Between at ht
  by_cases h : s1 < s2
  · rw [min_eq_left h.le, max_eq_right h.le] at ht
    rw [if_pos h]
    exact isoStep_up a b g s1 s2 t ha hb ht
  · have h' : s2 ≤ s1 := not_lt.mp h
    rw [min_eq_right h', max_eq_left h'] at ht
    rw [if_neg h, isoStep_swap]
    exact isoStep_up b a g s2 s1 t hb ha ht

/-- **C03-B (threshold).** For the gradient array of an exact two-slope elbow
(`a, b ≥ 1` copies of the arm slopes `s1 ≠ s2`, corner gradient strictly between them) the ISODATA
threshold `T` (`eps = 1e-6`, `max_iter = 100`)

* is a value `(mean(left) + mean(right))/2` produced by an update from a threshold strictly between
  the slopes (never the raw mean; the partition is never one-sided — see `isoStep_elbow` for its
  two possible shapes),
* lies strictly between the slopes, and
* the corner gradient is strictly closer to `T` than either arm slope. -/
theorem isodata_between (a b : Nat) (gmid s1 s2 : Rat) (ha : 1 ≤ a) (hb : 1 ≤ b)
    (hlo : min s1 s2 < gmid) (hhi : gmid < max s1 s2) :
    (∃ t, Between s1 s2 t ∧
        isoStep (elbowG a gmid b s1 s2) t = some (isodataQ (elbowG a gmid b s1 s2))) ∧
      Between s1 s2 (isodataQ (elbowG a gmid b s1 s2)) ∧
      rabs (gmid - isodataQ (elbowG a gmid b s1 s2)) <
        rabs (s1 - isodataQ (elbowG a gmid b s1 s2)) ∧
      rabs (gmid - isodataQ (elbowG a gmid b s1 s2)) <
        rabs (s2 - isodataQ (elbowG a gmid b s1 s2)) := by
  rcases le_total s1 s2 with h | h
  · rw [min_eq_left h] at hlo
    rw [max_eq_right h] at hhi
    simp only [Between, min_eq_left h, max_eq_right h]
    exact isodata_up a b gmid s1 s2 ha hb hlo hhi
  · -- descending slopes: the same array read backwards
    rw [min_eq_right h] at hlo
    rw [max_eq_left h] at hhi
    simp only [Between, min_eq_right h, max_eq_left h, isoStep_swap a b, isodataQ_swap a b]
    obtain ⟨p, q, r1, r2⟩ := isodata_up b a gmid s2 s1 hb ha hlo hhi
    exact ⟨p, q, r2, r1⟩

/-- the corner-gradient hypothesis forces `s1 ≠ s2` -/
theorem elbow_slopes_ne {gmid s1 s2 : Rat} (hlo : min s1 s2 < gmid) (hhi : gmid < max s1 s2) :
    s1 ≠ s2 := by
  rintro rfl
  exact lt_asymm (min_self s1 ▸ hlo) (max_self s1 ▸ hhi)

/-- **C03-B (one round).** `get_knee_gradient`: on the criterion array `|g − T|` of the elbow
gradient, `argmin(diff[1:-1]) + 1` is the corner index `a`. -/
theorem dfdtInner_elbow (a b : Nat) (gmid s1 s2 : Rat) (ha : 1 ≤ a) (hb : 1 ≤ b)
    (hg : Between s1 s2 gmid) :
    dfdtInner ((elbowG a gmid b s1 s2).map
      fun v => rabs (v - isodataQ (elbowG a gmid b s1 s2))) = a := by
  obtain ⟨_, _, h1, h2⟩ := isodata_between a b gmid s1 s2 ha hb hg.1 hg.2
  rw [elbowG_map]
  exact dfdtInner_elbowG a b _ _ _ ha hb h1 h2

/-- one round on the tail `g[c:]` with `c < a`: the local index of the corner -/
theorem dfdtInner_diffs_elbow (a b c : Nat) (gmid s1 s2 : Rat) (hc : c + 1 ≤ a) (hb : 1 ≤ b)
    (hg : Between s1 s2 gmid) :
    dfdtInner (dfdtDiffsQ (elbowG a gmid b s1 s2) c) = a - c := by
  unfold dfdtDiffsQ
  simp only []
  rw [elbowG_drop (by omega)]
  exact dfdtInner_elbow (a - c) b gmid s1 s2 (by omega) hb hg

/-- **C03-B (DFDT finds the corner), general form.**  Arms of `a ≥ 2` and `b ≥ 1` gradient samples
suffice. -/
theorem dfdt_elbow' (a b : Nat) (gmid s1 s2 : Rat) (ha : 2 ≤ a) (hb : 1 ≤ b)
    (hlo : min s1 s2 < gmid) (hhi : gmid < max s1 s2) :
    dfdtKnee (dfdtDiffsQ (elbowG a gmid b s1 s2)) (a + 1 + b) = a := by
  have hc : (a + 1) / 2 < a := by omega
  apply dfdtKnee_of_two_rounds _ _ a (by omega) (by omega)
  · rw [dfdtInner_diffs_elbow a b 0 gmid s1 s2 (by omega) hb ⟨hlo, hhi⟩, Nat.sub_zero]
  · rw [dfdtInner_diffs_elbow a b _ gmid s1 s2 hc hb ⟨hlo, hhi⟩, Nat.sub_add_cancel hc.le]

/-- **C03-B (DFDT finds the corner).** With `g` the gradient array of an exact two-slope elbow whose
arms carry `a ≥ 3` and `b ≥ 3` samples (`n = a + 1 + b` points, corner at index `a`), `dfdt.knee`
returns the corner: round 1 on the whole array gives `a`; round 2 on the tail from `⌈a/2⌉` gives `a`
again; the knee did not move right, so the loop stops. -/
theorem dfdt_elbow (a b : Nat) (gmid s1 s2 : Rat) (ha : 3 ≤ a) (hb : 3 ≤ b)
    (hlo : min s1 s2 < gmid) (hhi : gmid < max s1 s2) :
    dfdtKnee (dfdtDiffsQ (elbowG a gmid b s1 s2)) (a + 1 + b) = a :=
  dfdt_elbow' a b gmid s1 s2 (by omega) (by omega) hlo hhi

/-- a concrete elbow gradient with ascending slopes: `-2` then `-1/8`, corner gradient `-9/8` -/
def exG : List Rat := elbowG 4 (-9/8) 4 (-2) (-1/8)

example : exG = [-2, -2, -2, -2, -9/8, -1/8, -1/8, -1/8, -1/8] := by decide +kernel
example : meanL exG = -77/72 := by decide +kernel
example : isoStep exG (-77/72) = some (-39/40) := by decide +kernel
example : isoStep exG (-39/40) = some (-39/40) := by decide +kernel
example : isodataQ exG = -39/40 := by decide +kernel
example : dfdtDiffsQ exG 0 =
    [41/40, 41/40, 41/40, 41/40, 3/20, 17/20, 17/20, 17/20, 17/20] := by decide +kernel
example : dfdtKnee (dfdtDiffsQ exG) 9 = 4 := by decide +kernel
/-- descending slopes (`3 > 1/2`) -/
example : dfdtKnee (dfdtDiffsQ (elbowG 5 1 3 3 (1/2))) 9 = 5 := by decide +kernel
/-- the hypotheses of `dfdt_elbow` are satisfiable (instance of the theorem) -/
example : dfdtKnee (dfdtDiffsQ (elbowG 4 (-9/8) 4 (-2) (-1/8))) (4 + 1 + 4) = 4 :=
  dfdt_elbow 4 4 (-9/8) (-2) (-1/8) (by decide) (by decide) (by decide +kernel) (by decide +kernel)

end Knee
