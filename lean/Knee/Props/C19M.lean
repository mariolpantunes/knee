import Knee.Model.Matching
import Knee.Lemmas.Basic
import Knee.Lemmas.Geometry
import Mathlib.Algebra.Order.BigOperators.Group.List
/-!
# C19M — matching-error scores (`mae`, `mse`, `rmse`, `rmspe`) of `evaluation.py`

Model: `Knee.nearest` (first nearest neighbour by squared Euclidean distance), `Knee.strategySide`
(which side is iterated, which is searched), `Knee.maeSides` / `Knee.mseSides` /
`Knee.rmspeSqSides` (mean per-coordinate error of matching every point of the iterated side `a`
to its nearest neighbour in the searched side `b`; divisor `2·|a|`), and the strategy-level scores
`Knee.maeQ`, `Knee.mseQ2`, `Knee.rmspeSqQ` (`rmse = sqrt(mseQ2)`, `rmspe = sqrt(rmspeSqQ)`; the
square roots are monotone and vanish only at 0, so sign and vanishing carry over).
Exact rational arithmetic; no oracle, no tolerance.
-/
namespace Knee

theorem nearest_spec {b : List P2} (p : P2) (hb : b ≠ []) :
    ∃ i, ∃ hi : i < b.length, nearest b p = b[i] ∧
      ∀ j (hj : j < b.length), normSq (sub b[i] p) ≤ normSq (sub b[j] p) := by
  have hi := argminIdx_lt_length (l := b.map fun q => normSq (sub q p))
    (by rw [List.length_map]; exact List.length_pos_iff.2 hb)
  rw [List.length_map] at hi
  refine ⟨_, hi, ?_, ?_⟩
  · unfold nearest
    rw [List.getElem?_eq_getElem hi, Option.getD_some]
  · intro j hj
    have h := argminIdx_le (l := b.map fun q => normSq (sub q p)) j (by rwa [List.length_map])
    rwa [List.getElem?_map, List.getElem?_map, List.getElem?_eq_getElem hi,
      List.getElem?_eq_getElem hj] at h

/-- **C19M (nearest is a member).** The nearest neighbour of `p` in a non-empty side `b` is a
point of `b`. -/
theorem nearest_mem {b : List P2} {p : P2} (hb : b ≠ []) : nearest b p ∈ b := by
  obtain ⟨i, hi, he, _⟩ := nearest_spec p hb
  rw [he]
  exact List.getElem_mem hi

/-- **C19M (nearest is closest).** No point of `b` is strictly closer to `p` than `nearest b p`
(squared Euclidean distance). -/
theorem nearest_closest {b : List P2} {p : P2} (hb : b ≠ []) :
    ∀ q ∈ b, normSq (sub (nearest b p) p) ≤ normSq (sub q p) := by
  intro q hq
  obtain ⟨i, hi, he, hmin⟩ := nearest_spec p hb
  obtain ⟨j, hj, rfl⟩ := List.getElem_of_mem hq
  rw [he]
  exact hmin j hj

/-- **C19M (a member is its own nearest neighbour).** If `p ∈ b`, the minimal squared distance
is 0, and squared distance 0 forces equal coordinates. -/
theorem nearest_self {b : List P2} {p : P2} (hp : p ∈ b) : nearest b p = p := by
  have hb : b ≠ [] := List.ne_nil_of_mem hp
  have h := nearest_closest (p := p) hb p hp
  rw [normSq_sub_self] at h
  exact normSq_sub_eq_zero_iff.1 (le_antisymm h (normSq_nonneg _))

/-- the mean over the iterated side `a` of a per-pair error `err p (nearest b p)`, divisor `2·|a|`:
the common shape of `maeSides`, `mseSides`, `rmspeSqSides` -/
def matchScore (err : P2 → P2 → Rat) (a b : List P2) : Rat :=
  (a.map fun p => err p (nearest b p)).sum / ((a.length : Rat) * 2)

theorem maeSides_eq (a b : List P2) :
    maeSides a b = matchScore (fun p q => rabs (p.1 - q.1) + rabs (p.2 - q.2)) a b := rfl

/-- the squared-error term is the squared distance that `nearest` minimises -/
theorem mseSides_eq (a b : List P2) :
    mseSides a b = matchScore (fun p q => normSq (sub p q)) a b := rfl

theorem rmspeSqSides_eq (a b : List P2) :
    rmspeSqSides a b = matchScore (fun p q =>
      ((p.1 - q.1) / (p.1 + epsM)) * ((p.1 - q.1) / (p.1 + epsM))
        + ((p.2 - q.2) / (p.2 + epsM)) * ((p.2 - q.2) / (p.2 + epsM))) a b := rfl

theorem matchScore_nonneg {err : P2 → P2 → Rat} (h : ∀ p q, 0 ≤ err p q) (a b : List P2) :
    0 ≤ matchScore err a b :=
  div_nonneg (List.sum_nonneg (List.forall_mem_map.2 fun p _ => h p _))
    (mul_nonneg (Nat.cast_nonneg _) zero_le_two)

theorem matchScore_subset_zero {err : P2 → P2 → Rat} (h0 : ∀ p, err p p = 0) {a b : List P2}
    (hab : ∀ p ∈ a, p ∈ b) : matchScore err a b = 0 := by
  unfold matchScore
  rw [List.sum_eq_zero (List.forall_mem_map.2 fun p hp => by rw [nearest_self (hab p hp), h0]),
    zero_div]

/-- **C19M (MAE ≥ 0)** for every pair of sides (empty ones included: `x / 0 = 0`). -/
theorem maeSides_nonneg (a b : List P2) : 0 ≤ maeSides a b :=
  maeSides_eq a b ▸ matchScore_nonneg (fun _ _ => add_nonneg (rabs_nonneg _) (rabs_nonneg _)) a b

theorem mseSides_nonneg (a b : List P2) : 0 ≤ mseSides a b :=
  mseSides_eq a b ▸ matchScore_nonneg (fun p q => normSq_nonneg (sub p q)) a b

theorem rmspeSqSides_nonneg (a b : List P2) : 0 ≤ rmspeSqSides a b :=
  rmspeSqSides_eq a b ▸
    matchScore_nonneg (fun _ _ => add_nonneg (mul_self_nonneg _) (mul_self_nonneg _)) a b

/-- **C19M (mae ≥ 0)** for every strategy, expected set and knee list. -/
theorem maeQ_nonneg (s : Strategy) (E K : List P2) : 0 ≤ maeQ s E K := maeSides_nonneg _ _

theorem mseQ2_nonneg (s : Strategy) (E K : List P2) : 0 ≤ mseQ2 s E K := mseSides_nonneg _ _

theorem rmspeSqQ_nonneg (s : Strategy) (E K : List P2) : 0 ≤ rmspeSqQ s E K :=
  rmspeSqSides_nonneg _ _

/-- **C19M (MAE = 0 on containment).** If every iterated point occurs in the searched side, the
mean absolute error is 0. -/
theorem maeSides_subset_zero {a b : List P2} (h : ∀ p ∈ a, p ∈ b) : maeSides a b = 0 := by
  rw [maeSides_eq]
  exact matchScore_subset_zero (fun _ => by simp [rabs_zero]) h

theorem mseSides_subset_zero {a b : List P2} (h : ∀ p ∈ a, p ∈ b) : mseSides a b = 0 := by
  rw [mseSides_eq]
  exact matchScore_subset_zero normSq_sub_self h

theorem rmspeSqSides_subset_zero {a b : List P2} (h : ∀ p ∈ a, p ∈ b) :
    rmspeSqSides a b = 0 := by
  rw [rmspeSqSides_eq]
  exact matchScore_subset_zero (fun _ => by simp) h

theorem strategySide_self (s : Strategy) (E : List P2) : strategySide s E E = (E, E) := by
  cases s <;> simp [strategySide]

/-- **C19M (mae of a perfect detection).** When the knee points are exactly the expected points,
every strategy gives 0. -/
theorem maeQ_self (s : Strategy) (E : List P2) : maeQ s E E = 0 := by
  simp only [maeQ, strategySide_self]
  exact maeSides_subset_zero fun _ h => h

theorem mseQ2_self (s : Strategy) (E : List P2) : mseQ2 s E E = 0 := by
  simp only [mseQ2, strategySide_self]
  exact mseSides_subset_zero fun _ h => h

theorem rmspeSqQ_self (s : Strategy) (E : List P2) : rmspeSqQ s E E = 0 := by
  simp only [rmspeSqQ, strategySide_self]
  exact rmspeSqSides_subset_zero fun _ h => h

theorem strategy_knees (E K : List P2) : strategySide .knees E K = (K, E) := rfl

theorem strategy_expected (E K : List P2) : strategySide .expected E K = (E, K) := rfl

theorem strategy_best_le {E K : List P2} (h : E.length ≤ K.length) :
    strategySide .best E K = (E, K) := by
  simp [strategySide, h]

theorem strategy_best_gt {E K : List P2} (h : K.length < E.length) :
    strategySide .best E K = (K, E) := by
  simp [strategySide, Nat.not_le.2 h]

theorem strategy_worst_ge {E K : List P2} (h : K.length ≤ E.length) :
    strategySide .worst E K = (E, K) := by
  simp [strategySide, h]

theorem strategy_worst_lt {E K : List P2} (h : E.length < K.length) :
    strategySide .worst E K = (K, E) := by
  simp [strategySide, Nat.not_le.2 h]

/-- **C19M (`best` iterates the smaller side).** -/
theorem strategy_best_iterates_smaller (E K : List P2) :
    (strategySide .best E K).1.length ≤ (strategySide .best E K).2.length := by
  by_cases h : E.length ≤ K.length
  · rw [strategy_best_le h]; exact h
  · rw [strategy_best_gt (Nat.not_le.1 h)]; exact Nat.le_of_lt (Nat.not_le.1 h)

/-- **C19M (`worst` iterates the larger side).** -/
theorem strategy_worst_iterates_larger (E K : List P2) :
    (strategySide .worst E K).2.length ≤ (strategySide .worst E K).1.length := by
  by_cases h : K.length ≤ E.length
  · rw [strategy_worst_ge h]; exact h
  · rw [strategy_worst_lt (Nat.not_le.1 h)]; exact Nat.le_of_lt (Nat.not_le.1 h)

theorem strategySide_cases (s : Strategy) (E K : List P2) :
    strategySide s E K = (E, K) ∨ strategySide s E K = (K, E) := by
  cases s
  exacts [Or.inr rfl, Or.inl rfl, ite_eq_or_eq _ _ _, ite_eq_or_eq _ _ _]

/-- **C19M (MSE = 0 iff containment).** For non-empty sides the mean squared error vanishes
exactly when every iterated point occurs in the searched side: a sum of non-negative terms is 0
iff every term is, and a term is 0 iff the nearest neighbour equals the point.  (Also true for
`a = []`, where both sides hold; the statement keeps `ha`.) -/
theorem mseSides_eq_zero_iff {a b : List P2} (ha : a ≠ []) (hb : b ≠ []) :
    mseSides a b = 0 ↔ ∀ p ∈ a, p ∈ b := by
  constructor
  · intro h0 p hp
    rw [mseSides_eq, matchScore] at h0
    have hlen : ((a.length : Rat) * 2) ≠ 0 :=
      mul_ne_zero (Nat.cast_ne_zero.2 (List.length_pos_iff.2 ha).ne') two_ne_zero
    have h := List.all_zero_of_le_zero_le_of_sum_eq_zero
      (List.forall_mem_map.2 fun p _ => normSq_nonneg (sub p (nearest b p)))
      ((div_eq_zero_iff.1 h0).resolve_right hlen) (List.mem_map.2 ⟨p, hp, rfl⟩)
    rw [normSq_sub_eq_zero_iff.1 h]
    exact nearest_mem hb
  · exact mseSides_subset_zero

/-- **C19M (mse = 0 iff the iterated side is contained in the searched side)**, at strategy
level, for non-empty expected set and knee list. -/
theorem mseQ2_eq_zero_iff (s : Strategy) {E K : List P2} (hE : E ≠ []) (hK : K ≠ []) :
    mseQ2 s E K = 0 ↔ ∀ p ∈ (strategySide s E K).1, p ∈ (strategySide s E K).2 := by
  unfold mseQ2
  rcases strategySide_cases s E K with h | h <;> rw [h]
  · exact mseSides_eq_zero_iff hE hK
  · exact mseSides_eq_zero_iff hK hE

/-! Non-vacuity: concrete values of the model on E = [(2,2),(3,3)], K = [(1,1),(11,11)]
(both expected points match the knee (1,1); the knee (11,11) matches (3,3)), a first-minimum
tie in `nearest`, both branches of `best` / `worst`, and a non-empty pair satisfying the
hypotheses of `mseSides_eq_zero_iff` on either side of the equivalence. -/
example : maeQ .expected [(2, 2), (3, 3)] [(1, 1), (11, 11)] = 3 / 2 := by decide +kernel
example : mseQ2 .expected [(2, 2), (3, 3)] [(1, 1), (11, 11)] = 5 / 2 := by decide +kernel
example : mseQ2 .knees [(2, 2), (3, 3)] [(1, 1), (11, 11)] = 65 / 2 := by decide +kernel
example : maeQ .knees [(2, 2), (3, 3)] [(1, 1), (11, 11)] = 9 / 2 := by decide +kernel
example : maeQ .best [(2, 2), (3, 3)] [(2, 2), (3, 3)] = 0 := by decide +kernel
example : 0 < rmspeSqQ .expected [(2, 2), (3, 3)] [(1, 1), (11, 11)] := by decide +kernel
example : nearest [(1, 1), (3, 3), (1, 3)] (2, 2) = (1, 1) := by decide +kernel
example : mseQ2 .best [(2, 2), (3, 3)] [(1, 1), (11, 11), (4, 5)] = 7 / 4
    ∧ mseQ2 .worst [(2, 2), (3, 3)] [(1, 1), (11, 11), (4, 5)] = 45 / 2 := by decide +kernel
example : strategySide .best [(2, 2), (3, 3)] [(1, 1)] = ([(1, 1)], [(2, 2), (3, 3)])
    ∧ strategySide .worst [(2, 2), (3, 3)] [(1, 1)] = ([(2, 2), (3, 3)], [(1, 1)]) := by
  decide +kernel
example : mseSides [(3, 3)] [(2, 2), (3, 3)] = 0 ∧ mseSides [(2, 2), (3, 3)] [(3, 3)] ≠ 0 := by
  decide +kernel

end Knee
