import Knee.Props.C02D
import Knee.Props.C08F
/-!
# C08G — the end-to-end theorem for each of the five bundled detectors

`Props/C08F.lean` proves the whole pipeline correct for "every detector" under the hypothesis
`DetOKLarge t2 det` (the detector's range contract on ranges with more than `t2` points).
`Props/C02D.lean` proves that contract for the models of the five detectors shipped with the
package — `knee.curvature`, `knee.menger`, `knee.dfdt`, `knee.lmethod`, `knee.kneedle` — fed with
arbitrary criterion oracles.  Here the two are composed: for each bundled detector
`pipelineCfg_end_to_end` holds with NO hypothesis on the detector left, only

* the shape of its criterion oracle (what numpy guarantees: one criterion value per point, one
  Menger curvature per interior point, `len - c` gradient differences after a cut of `c`,
  `len - 4` L-method split errors), and
* the documented minimum size gate: `t2 ≥ 2` for curvature / Menger / DFDT, `t2 ≥ 4` and
  `limit ≥ 4` for the L-method, nothing for Kneedle.

For the four strictly interior detectors (all but Menger) the conclusion is strengthened by
`1 ≤ k` for every knee `k` returned by `multi_knee` (the first point of the reduced curve is never
reported), from `multiKnee_interior_large`.

Oracles: every floating-point quantity, including the detectors' criterion arrays.
-/
namespace Knee

/-- The conclusion of `pipelineCfg_end_to_end`, verbatim, as a predicate of the configuration. -/
def EndToEndSpec (s : Simplifier) (o : SimpOracles) (n : Nat)
    (det : Nat → Nat → Option Nat) (gate : Nat → Nat → Bool) (t2 : Nat)
    (h : Nat → Rat) (iou : Nat → Rat) (tc : Rat) (labelsOf : List Nat → List Nat)
    (cm : ClusterMode) (fin : Final) : Prop :=
  ∃ S, pipelineCfg s o n det gate t2 h iou tc labelsOf cm fin = some S ∧
    (S.reduced.Pairwise (· < ·) ∧ S.reduced[0]? = some 0 ∧ S.reduced.getLast? = some (n - 1) ∧
      S.removed = computeRemoved S.reduced) ∧
    (multiKnee det gate t2 S.reduced.length = some S.knees ∧ S.knees.Pairwise (· < ·) ∧
      ∀ k ∈ S.knees, k + 2 ≤ S.reduced.length) ∧
    (S.worst.Sublist S.knees ∧ S.corner.Sublist S.worst ∧ S.cluster.Sublist S.corner) ∧
    (S.worst.Pairwise (fun a b => h b ≤ h a) ∧ S.corner.Pairwise (fun a b => h b ≤ h a) ∧
      S.cluster.Pairwise (fun a b => h b ≤ h a)) ∧
    match fin with
    | .map =>
      S.out = S.cluster.map (fun k => S.reduced[k]?.getD 0) ∧ S.out.Pairwise (· < ·) ∧
      (∀ x ∈ S.out, x ∈ S.reduced) ∧ (∀ x ∈ S.out, x < n) ∧ S.out.length = S.cluster.length
    | .addEven hOrig _ npts _ =>
      (∀ i, 0 < npts i) →
        S.out.Pairwise (· < ·) ∧ (∀ x ∈ S.out, x < n) ∧
        S.out.Pairwise (fun a b => hOrig b ≤ hOrig a)

/-- `EndToEndSpec` plus: no knee returned by `multi_knee` is the first point of the reduced curve.
Stated for `knees` and `cluster`; `worst` and `corner` lie between the two as subsequences.  The
clause quantifies over every `S` the pipeline returns, beside the `∃ S` inside `EndToEndSpec`, so
that `EndToEndSpec` itself appears unchanged as the first component. -/
def EndToEndSpecInterior (s : Simplifier) (o : SimpOracles) (n : Nat)
    (det : Nat → Nat → Option Nat) (gate : Nat → Nat → Bool) (t2 : Nat)
    (h : Nat → Rat) (iou : Nat → Rat) (tc : Rat) (labelsOf : List Nat → List Nat)
    (cm : ClusterMode) (fin : Final) : Prop :=
  EndToEndSpec s o n det gate t2 h iou tc labelsOf cm fin ∧
    ∀ S, pipelineCfg s o n det gate t2 h iou tc labelsOf cm fin = some S →
      (∀ k ∈ S.knees, 1 ≤ k) ∧ (∀ k ∈ S.cluster, 1 ≤ k)

section
variable (s : Simplifier) (o : SimpOracles) (n : Nat) (gate : Nat → Nat → Bool) (t2 : Nat)
  (h : Nat → Rat) (iou : Nat → Rat) (tc : Rat) (labelsOf : List Nat → List Nat)
  (cm : ClusterMode) (fin : Final)

/-- **C08G (interior detectors).** With a detector that is strictly interior on ranges longer than
`t2`, the end-to-end statement holds and moreover neither `multi_knee` nor (hence) the cluster stage
ever reports position `0` of the reduced curve. -/
theorem pipelineCfg_spec_interior (det : Nat → Nat → Option Nat)
    (hn : 2 ≤ n) (hs : SimpDomain s) (hd : ∀ l r, (o.dst l r).length = r - l)
    (hdet : DetInteriorLarge t2 det) (hl : ∀ ks, (labelsOf ks).length = ks.length) :
    EndToEndSpecInterior s o n det gate t2 h iou tc labelsOf cm fin := by
  have hspec : EndToEndSpec s o n det gate t2 h iou tc labelsOf cm fin :=
    pipelineCfg_end_to_end s o n det gate t2 h iou tc labelsOf cm fin hn hs hd hdet.detOKLarge hl
  refine ⟨hspec, fun S' hS' => ?_⟩
  obtain ⟨S, hS, hred, ⟨hmk, _, _⟩, ⟨hw, hc, hcl⟩, _⟩ := hspec
  rw [hS'] at hS
  cases hS
  obtain ⟨ks, hks, _, hint⟩ :=
    multiKnee_interior_large (gate := gate) hdet (List.getElem?_eq_some_iff.1 hred.2.1).1
  rw [hmk] at hks
  cases hks
  have hk1 : ∀ k ∈ S'.knees, 1 ≤ k := fun k hk => (hint k hk).1
  exact ⟨hk1, fun k hk => hk1 k (((hcl.trans hc).trans hw).subset hk)⟩

/-- **C08G (curvature).** The whole pipeline with `knee.curvature` as the detector inside
`multi_knee`: whatever the criterion arrays contain (one value per point), with `t2 ≥ 2`, every
simplifier / gate / filter / final-stage configuration completes and satisfies the end-to-end
specification; position `0` of the reduced curve is never a knee. -/
theorem pipelineCfg_curvature (crit : Nat → Nat → List Rat)
    (hn : 2 ≤ n) (hs : SimpDomain s) (hd : ∀ l r, (o.dst l r).length = r - l)
    (hcrit : ∀ l r, (crit l r).length = r - l) (ht : 2 ≤ t2)
    (hl : ∀ ks, (labelsOf ks).length = ks.length) :
    EndToEndSpecInterior s o n (detCurv crit) gate t2 h iou tc labelsOf cm fin :=
  pipelineCfg_spec_interior s o n gate t2 h iou tc labelsOf cm fin _ hn hs hd
    (detCurv_large hcrit ht) hl

/-- **C08G (Menger).** The whole pipeline with `knee.menger` as the detector: whatever the Menger
curvatures are (one per consecutive triple of the range), with `t2 ≥ 2`, every configuration
completes and satisfies the end-to-end specification.  (Menger is not strictly interior: on a flat
range its answer is `0`.) -/
theorem pipelineCfg_menger (mc : Nat → Nat → List Rat)
    (hn : 2 ≤ n) (hs : SimpDomain s) (hd : ∀ l r, (o.dst l r).length = r - l)
    (hmc : ∀ l r, (mc l r).length = r - l - 2) (ht : 2 ≤ t2)
    (hl : ∀ ks, (labelsOf ks).length = ks.length) :
    EndToEndSpec s o n (detMenger mc) gate t2 h iou tc labelsOf cm fin :=
  pipelineCfg_end_to_end s o n _ gate t2 h iou tc labelsOf cm fin hn hs hd (detMenger_large hmc ht) hl

/-- **C08G (DFDT).** The whole pipeline with `knee.dfdt` as the detector: whatever the
gradient-minus-threshold differences are (`len - c` values after a cut of `c` points), with
`t2 ≥ 2`, every configuration completes and satisfies the end-to-end specification; position `0`
of the reduced curve is never a knee. -/
theorem pipelineCfg_dfdt (diffs : Nat → Nat → Nat → List Rat)
    (hn : 2 ≤ n) (hs : SimpDomain s) (hd : ∀ l r, (o.dst l r).length = r - l)
    (hdiffs : ∀ l r c, (diffs l r c).length = (r - l) - c) (ht : 2 ≤ t2)
    (hl : ∀ ks, (labelsOf ks).length = ks.length) :
    EndToEndSpecInterior s o n (detDfdt diffs) gate t2 h iou tc labelsOf cm fin :=
  pipelineCfg_spec_interior s o n gate t2 h iou tc labelsOf cm fin _ hn hs hd
    (detDfdt_large hdiffs ht) hl

/-- **C08G (L-method).** The whole pipeline with `knee.lmethod` as the detector, for each of its
three refinement options: whatever the split-fitting errors are (`len - 4` values for the first
`len` points), with `t2 ≥ 4` and the L-method's own `limit ≥ 4`, every configuration completes
(in particular the L-method's refinement loop terminates on every range it is called on) and
satisfies the end-to-end specification; position `0` of the reduced curve is never a knee. -/
theorem pipelineCfg_lmethod (errs : Nat → Nat → Nat → List Rat) (mode : Refinement) (limit : Nat)
    (hn : 2 ≤ n) (hs : SimpDomain s) (hd : ∀ l r, (o.dst l r).length = r - l)
    (herrs : ∀ l r len, (errs l r len).length = len - 4) (ht : 4 ≤ t2) (hlim : 4 ≤ limit)
    (hl : ∀ ks, (labelsOf ks).length = ks.length) :
    EndToEndSpecInterior s o n (detLmethod errs mode limit) gate t2 h iou tc labelsOf cm fin :=
  pipelineCfg_spec_interior s o n gate t2 h iou tc labelsOf cm fin _ hn hs hd
    (detLmethod_large herrs ht hlim mode) hl

/-- **C08G (Kneedle).** The whole pipeline with `knee.kneedle` as the detector: whatever the
difference curve is (one value per point), for EVERY `t2` (a strict peak is interior on any range),
every configuration completes and satisfies the end-to-end specification; position `0` of the
reduced curve is never a knee. -/
theorem pipelineCfg_kneedle (dd : Nat → Nat → List Rat)
    (hn : 2 ≤ n) (hs : SimpDomain s) (hd : ∀ l r, (o.dst l r).length = r - l)
    (hdd : ∀ l r, (dd l r).length = r - l)
    (hl : ∀ ks, (labelsOf ks).length = ks.length) :
    EndToEndSpecInterior s o n (detKneedle dd) gate t2 h iou tc labelsOf cm fin :=
  pipelineCfg_spec_interior s o n gate t2 h iou tc labelsOf cm fin _ hn hs hd
    ((detKneedle_interior hdd).detInteriorLarge t2) hl

end

/-- **C08G (unfolding, `rdp.mapping`).** `EndToEndSpec` is literally the conclusion of
`pipelineCfg_end_to_end`: for the mapping final stage it yields the reported knees. -/
theorem EndToEndSpec.map_out {s : Simplifier} {o : SimpOracles} {n : Nat}
    {det : Nat → Nat → Option Nat} {gate : Nat → Nat → Bool} {t2 : Nat}
    {h : Nat → Rat} {iou : Nat → Rat} {tc : Rat} {labelsOf : List Nat → List Nat}
    {cm : ClusterMode} (hspec : EndToEndSpec s o n det gate t2 h iou tc labelsOf cm .map) :
    ∃ S, pipelineCfg s o n det gate t2 h iou tc labelsOf cm .map = some S ∧
      S.out = S.cluster.map (fun k => S.reduced[k]?.getD 0) ∧ S.out.Pairwise (· < ·) ∧
      (∀ x ∈ S.out, x ∈ S.reduced) ∧ (∀ x ∈ S.out, x < n) ∧ S.out.length = S.cluster.length := by
  obtain ⟨S, hS, _, _, _, _, hfin⟩ := hspec
  exact ⟨S, hS, hfin⟩

/-- **C08G (unfolding, `add_points_even`).** For the even-points final stage with `0 < npts i` it
yields the strictly increasing valid output with non-increasing original heights. -/
theorem EndToEndSpec.addEven_out {s : Simplifier} {o : SimpOracles} {n : Nat}
    {det : Nat → Nat → Option Nat} {gate : Nat → Nat → Bool} {t2 : Nat}
    {h : Nat → Rat} {iou : Nat → Rat} {tc : Rat} {labelsOf : List Nat → List Nat}
    {cm : ClusterMode} {hOrig : Nat → Rat} {wide : Nat → Bool} {npts : Nat → Nat} {ext : Bool}
    (hspec : EndToEndSpec s o n det gate t2 h iou tc labelsOf cm (.addEven hOrig wide npts ext))
    (hnp : ∀ i, 0 < npts i) :
    ∃ S, pipelineCfg s o n det gate t2 h iou tc labelsOf cm (.addEven hOrig wide npts ext) = some S ∧
      S.out.Pairwise (· < ·) ∧ (∀ x ∈ S.out, x < n) ∧
      S.out.Pairwise (fun a b => hOrig b ≤ hOrig a) := by
  obtain ⟨S, hS, _, _, _, _, hfin⟩ := hspec
  exact ⟨S, hS, hfin hnp⟩

/-! Non-vacuity: the pipeline evaluated with each bundled detector on concrete oracle families (24
points, the simplifier oracles of the C08F examples, declared again here; the criterion oracles are
slices of one fixed array, resp. the C02D example families), and the shape hypotheses of the five corollaries checked on these families.
Shown: `(reduced, knees, out)`.  In every run `multi_knee` calls the detector on several levels of
the recursion and several knees survive to the output. -/
private def cstG : Nat → Nat → Rat := fun l r => if r - l > 3 then 1 else 0
private def dstG : Nat → Nat → List Rat := fun l r =>
  (List.range (r - l)).map fun i => ((min i (r - l - 1 - i) : Nat) : Rat)
private def keyG : Nat → Nat → Nat → Rat × Rat := fun l r i =>
  (((i : Nat) : Rat), ((r - l - i : Nat) : Rat))
private def gcsG : List Nat → Rat := fun red => 1 / ((red.length : Nat) : Rat)
private def oG : SimpOracles := ⟨cstG, dstG, keyG, gcsG⟩
private def hG : Nat → Rat := fun k => 20 - ((k : Int) : Rat)
private def iouG : Nat → Rat := fun _ => 0
private def labG : List Nat → List Nat := fun ks =>
  ks.map fun k => if k < 4 then 0 else if k < 10 then 1 else 2
private def scoreG : List Nat → List Rat := fun c => c.map fun k => ((k : Int) : Rat)
private def arrG : List Rat := [0, 1, 6, 2, 9, 3, 3, 7, 1, 4, 0, 0, 5, 2, 8, 1]
private def critG : Nat → Nat → List Rat := fun l r =>
  (List.range (r - l)).map fun i => arrG[l + i]?.getD 0
private def mcG : Nat → Nat → List Rat := fun l r =>
  (List.range (r - l - 2)).map fun i => arrG[l + i + 1]?.getD 0
private def diffsG : Nat → Nat → Nat → List Rat := fun l r c =>
  (List.range (r - l - c)).map fun (i : Nat) => ((((i : Int) - c - 1) ^ 2 : Int) : Rat)
private def errsG : Nat → Nat → Nat → List Rat := fun l _ len =>
  (List.range (len - 4)).map fun (i : Nat) =>
    ((((i : Int) + l - ((len - 4) / 2 : Nat)) ^ 2 : Int) : Rat)
private def viewG (S : StagesCfg) : List Nat × List Nat × List Nat := (S.reduced, S.knees, S.out)

example : SimpDomain (.rdp false (1/2)) := by simp only [SimpDomain]; decide +kernel
example : ∀ l r, (oG.dst l r).length = r - l := by
  intro l r; show (dstG l r).length = _; rw [dstG, List.length_map, List.length_range]
example : ∀ ks, (labG ks).length = ks.length := fun _ => List.length_map _
example : ∀ l r, (critG l r).length = r - l := by
  intro l r; rw [critG, List.length_map, List.length_range]
example : ∀ l r, (mcG l r).length = r - l - 2 := by
  intro l r; rw [mcG, List.length_map, List.length_range]
example : ∀ l r c, (diffsG l r c).length = (r - l) - c := by
  intro l r c; rw [diffsG, List.length_map, List.length_range]
example : ∀ l r len, (errsG l r len).length = len - 4 := by
  intro l r len; rw [errsG, List.length_map, List.length_range]

/-- curvature inside threshold RDP × rank × mapping: 9 knees on 16 retained points, none at `0` -/
example : Option.map viewG
    (pipelineCfg (.rdp false (1/2)) oG 24 (detCurv critG) (fun _ _ => true) 2 hG iouG (2/5) labG
      (.rank scoreG) .map)
    = some ([0, 2, 3, 5, 6, 8, 9, 11, 12, 14, 15, 17, 18, 20, 21, 23],
        [1, 2, 4, 6, 7, 9, 11, 12, 14], [3, 14, 21]) := by decide +kernel
/-- Menger inside fixed-size RDP -/
example : Option.map viewG
    (pipelineCfg (.fixed 12) oG 24 (detMenger mcG) (fun _ _ => true) 2 hG iouG (2/5) labG
      (.rank scoreG) .map)
    = some ([0, 2, 3, 5, 8, 11, 14, 15, 17, 20, 21, 23], [1, 2, 4, 6, 7, 9], [3, 20]) := by
  decide +kernel
/-- DFDT inside global RDP -/
example : Option.map viewG
    (pipelineCfg (.grdp false (1/15)) oG 24 (detDfdt diffsG) (fun _ _ => true) 2 hG iouG (2/5)
      labG (.rank scoreG) .map)
    = some ([0, 2, 3, 5, 8, 9, 10, 11, 14, 15, 16, 17, 20, 21, 22, 23],
        [1, 2, 3, 4, 5, 6, 7, 8, 9, 10, 11, 12, 13, 14], [5, 15, 22]) := by decide +kernel
/-- L-method (original refinement, `limit = 4`, `t2 = 4`) on the unreduced 24-point curve -/
example : Option.map viewG
    (pipelineCfg (.grdp true (9/10)) oG 24 (detLmethod errsG .original 4) (fun _ _ => true) 4 hG
      iouG (2/5) labG (.rank scoreG) .map)
    = some (List.range 24, [3, 6, 9, 12, 15, 18, 21], [3, 9, 21]) := by decide +kernel
/-- Kneedle with `t2 = 0` (no minimum needed) -/
example : Option.map viewG
    (pipelineCfg (.rdp false (1/2)) oG 24 (detKneedle critG) (fun _ _ => true) 0 hG iouG (2/5)
      labG (.rank scoreG) .map)
    = some ([0, 2, 3, 5, 6, 8, 9, 11, 12, 14, 15, 17, 18, 20, 21, 23],
        [2, 4, 7, 9, 12, 14], [3, 14, 21]) := by decide +kernel
/-- the minimum `t2 ≥ 2` is needed: with `t2 = 1` the curvature detector is called on two-point
ranges, answers `1`, and violates the contract (`DetOKLarge 1` fails) -/
example : ¬ DetOKLarge 1 (detCurv critG) := by
  intro h
  have := h 0 2 1 (by decide) (by decide +kernel)
  omega

end Knee
