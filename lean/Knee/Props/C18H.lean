import Knee.Lemmas.GrahamDeg
import Knee.Lemmas.GetD
import Knee.Props.C18
/-!
# C18H — `graham_scan` on arbitrary sets of at least three distinct points

Model: `Knee.grahamScan` (convex_hull.graham_scan): pivot = lexicographically smallest point, the
other points sorted by `_compare_points` (clockwise first; collinear with the pivot: nearer first),
the first three of `p0 :: sorted` pushed unconditionally, then
`while len(stack) > 1 and ccw(stack[-2], stack[-1], p) >= 0: pop`.  Orientation signs are exact in ℚ.

Hypotheses: only `pts.Nodup` and `3 ≤ pts.length` — collinear triples, several points on one ray
from the pivot and even all points on one line are allowed (C18G needs general position).
Together: "for every set of at least 3 distinct planar points, graham_scan returns indices that
include every extreme vertex and only boundary points of the convex hull".  Boundary points that
are not vertices CAN be output (the nearer of exactly two points on the first ray, see the
examples), so the output is in general not the exact vertex set; it is in general position (C18G).
-/
namespace Knee

section ScanD
variable (pts : List P2) (hnd : pts.Nodup) (h3 : 3 ≤ pts.length)
include hnd h3

/-- **C18H (pivot first).** For every list of ≥ 3 distinct points `graham_scan` returns a list
starting with the index of the lexicographically smallest input point. -/
theorem grahamScanD_head :
    ∃ i0, (grahamScan pts).head? = some i0 ∧ i0 < pts.length ∧
      ∀ k, k < pts.length → LexLe (pts[i0]?.getD (0, 0)) (pts[k]?.getD (0, 0)) := by
  obtain ⟨L, hs⟩ := grahamScan_struct pts hnd h3
  have h3' : 3 ≤ L.length := hs.length_eq.symm ▸ h3
  have h0 := hs.gAt_spec (Nat.zero_lt_of_lt h3')
  refine ⟨(gAt L 0).2, ?_, h0.1, ?_⟩
  · rw [hs.eq, List.head?_map, (hullD_chain _ h3').head]
    rfl
  · intro k hk
    rw [h0.2]
    exact hs.lexmin (pts[k]?.getD (0, 0), k) (mem_ip.2 ⟨hk, rfl⟩)

/-- **C18H (support, closed polygon).** For every list of ≥ 3 distinct points — collinear triples
allowed — every input point lies on or to the right of every directed edge of the closed polygon
`H ++ [H[0]]` through the points returned by `graham_scan`: the output polygon contains the input. -/
theorem grahamScanD_supports_cyclic :
    let H := grahamScan pts
    let C := H ++ [H[0]?.getD 0]
    let P := fun k => pts[k]?.getD (0, 0)
    ∀ k, k < pts.length → ∀ i, i + 1 < C.length →
      ccw (P (C[i]?.getD 0)) (P (C[i + 1]?.getD 0)) (P k) ≤ 0 := by
  intro H C P k hk
  obtain ⟨L, hs⟩ := grahamScan_struct pts hnd h3
  have h3' : 3 ≤ L.length := hs.length_eq.symm ▸ h3
  obtain ⟨k', hk', e⟩ := hs.exists_pos hk
  have hch := hullD_chain (gPt L) h3'
  rw [show C = _ from hs.closed_eq h3']
  refine (Adj2.iff_getD (R := fun u v => ccw (P u) (P v) (P k) ≤ 0) _).1 (Adj2.map _ _ ?_)
  refine Adj2.mono_mem _ (fun u hu v hv h => ?_) (hullD_closed hs.ang h3')
  have hlt : ∀ x ∈ hullD (gPt L) L.length ++ [0], x < L.length := fun x hx =>
    (List.mem_append.1 hx).elim (fun hx => Nat.lt_of_le_pred (Nat.zero_lt_of_lt h3') (hch.le x hx))
      fun hx => List.mem_singleton.1 hx ▸ Nat.zero_lt_of_lt h3'
  have := h k' hk'
  rw [hs.gPt_eq (hlt u hu), hs.gPt_eq (hlt v hv), hs.gPt_eq hk', ccw_flipY, e] at this
  exact neg_nonneg.1 this

/-- the same read by position in `H`: edge `i` runs from `H[i]` to `H[(i + 1) % |H|]` -/
theorem grahamScanD_supports_edge {i k : Nat} (hi : i < (grahamScan pts).length) (hk : k < pts.length) :
    ccw (pts[(grahamScan pts)[i]?.getD 0]?.getD (0, 0))
      (pts[(grahamScan pts)[(i + 1) % (grahamScan pts).length]?.getD 0]?.getD (0, 0))
      (pts[k]?.getD (0, 0)) ≤ 0 := by
  have hC : i + 1 < (grahamScan pts ++ [(grahamScan pts)[0]?.getD 0]).length := by
    simpa only [List.length_append, List.length_singleton, Nat.add_lt_add_iff_right] using hi
  obtain ⟨_, e1, e2⟩ := cycle_getD (grahamScan pts) hC
  simpa only [e1, e2] using grahamScanD_supports_cyclic pts hnd h3 k hk i hC

/-- **C18H (size).** The output always has at least two vertices, and at least three when the
input points are not all on one line. -/
theorem grahamScanD_length :
    let P := fun k => pts[k]?.getD (0, 0)
    2 ≤ (grahamScan pts).length ∧
      ((∃ i j k, i < pts.length ∧ j < pts.length ∧ k < pts.length ∧ ccw (P i) (P j) (P k) ≠ 0) →
        3 ≤ (grahamScan pts).length) := by
  intro P
  have h2 : 2 ≤ (grahamScan pts).length := by
    obtain ⟨L, hs⟩ := grahamScan_struct pts hnd h3
    rw [hs.eq, List.length_map]
    exact (hullD_chain _ (by rw [hs.length_eq]; omega)).two_le
  refine ⟨h2, ?_⟩
  rintro ⟨i, j, k, hi, hj, hk, hne⟩
  by_contra hlen
  have hl : (grahamScan pts).length = 2 := Nat.le_antisymm (Nat.le_of_lt_succ (Nat.lt_of_not_le hlen)) h2
  have hsound := grahamScan_nodup_bounded pts
  have h1 : 1 < (grahamScan pts).length := hl ▸ Nat.lt_succ_self 1
  have h0 := Nat.zero_lt_of_lt h1
  -- both directed edges between the two output points support every input point
  have key : ∀ q, q < pts.length →
      ccw (P ((grahamScan pts)[0]?.getD 0)) (P ((grahamScan pts)[1]?.getD 0)) (P q) = 0 := fun q hq => by
    have s0 := grahamScanD_supports_edge pts hnd h3 h0 hq
    have s1 := grahamScanD_supports_edge pts hnd h3 h1 hq
    rw [hl] at s0 s1
    rw [ccw_rot, ccw_swap] at s1
    exact le_antisymm s0 (neg_nonpos.1 s1)
  have hne01 : P _ ≠ P _ := nodup_getD_ne hnd (hsound.2 _ (getD_mem _ h0)) (hsound.2 _ (getD_mem _ h1))
    (nodup_getD_ne hsound.1 h0 h1 Nat.zero_ne_one)
  exact hne (ccw_collinear3 hne01 (key i hi) (key j hj) (key k hk))

/-- **C18H (boundary points only).** Every index returned by `graham_scan` is a boundary point of
the convex hull of the input: some line through it (normal `d ≠ 0`) has all input points on one
side.  In particular no interior point is ever returned. -/
theorem grahamScanD_boundary_only :
    let P := fun k => pts[k]?.getD (0, 0)
    ∀ k ∈ grahamScan pts, ∃ d : P2, d ≠ (0, 0) ∧
      ∀ j, j < pts.length → d.1 * (P j).1 + d.2 * (P j).2 ≤ d.1 * (P k).1 + d.2 * (P k).2 := by
  intro P k hmem
  obtain ⟨i, hi, e⟩ := List.getElem_of_mem hmem
  obtain rfl : (grahamScan pts)[i]?.getD 0 = k := by rw [List.getElem?_eq_getElem hi, Option.getD_some, e]
  have hsound := grahamScan_nodup_bounded pts
  have h2 := (grahamScanD_length pts hnd h3).1
  -- the edge of the closed polygon that starts at the vertex ends at a different input point
  have hj := Nat.mod_lt (i + 1) (Nat.zero_lt_of_lt hi)
  have hPne : P ((grahamScan pts)[(i + 1) % (grahamScan pts).length]?.getD 0) ≠ P ((grahamScan pts)[i]?.getD 0) :=
    nodup_getD_ne hnd (hsound.2 _ (getD_mem _ hj)) (hsound.2 _ hmem)
      (nodup_getD_ne hsound.1 hj hi (succ_mod_ne h2 hi))
  obtain ⟨d, hd0, hd⟩ := support_of_edge hPne
  exact ⟨d, hd0, fun j hj => hd _ (grahamScanD_supports_edge pts hnd h3 hi hj)⟩

/-- **C18H (extreme vertices included).** Every extreme vertex of the input — a point that is the
strict unique maximiser of some linear functional `d` over the input — is returned by
`graham_scan`: it is neither skipped nor popped. -/
theorem grahamScanD_extreme_included :
    let P := fun k => pts[k]?.getD (0, 0)
    ∀ k, k < pts.length →
      (∃ d : P2, ∀ j, j < pts.length → j ≠ k →
        d.1 * (P j).1 + d.2 * (P j).2 < d.1 * (P k).1 + d.2 * (P k).2) →
      k ∈ grahamScan pts := by
  intro P k hk
  rintro ⟨d, hd⟩
  obtain ⟨L, hs⟩ := grahamScan_struct pts hnd h3
  have h3' : 3 ≤ L.length := by rw [hs.length_eq]; omega
  obtain ⟨k', hk', e⟩ := hs.exists_pos hk
  refine (hullD_keep hs.ang h3' k' hk').elim (fun hmem => ?_)
    fun hne => (hne (flipY d) fun j' hj' hjk => ?_).elim
  · rw [hs.eq]
    exact List.mem_map.2 ⟨k', hmem, e⟩
  · -- the functional reflected with the scan sequence has its strict maximum at position `k'`
    rw [hs.gPt_eq hj', hs.gPt_eq hk', dot_flipY, dot_flipY, e]
    exact hd _ (hs.gAt_spec hj').1 fun h => hjk (hs.idx_inj hj' hk' (h.trans e.symm))

end ScanD

/-! Non-vacuity on degenerate inputs (none of them is in general position): the hypotheses hold and
the model computes the shown outputs. -/

/-- 3 × 3 integer grid, row by row: the four corners plus the boundary point `(0, 1)` (index 1, the
nearer of exactly two points on the first ray); the centre and the other edge midpoints are dropped -/
private def grid : List P2 := [(0, 0), (0, 1), (0, 2), (1, 0), (1, 1), (1, 2), (2, 0), (2, 1), (2, 2)]

example : grahamScan grid = [0, 1, 2, 8, 6] := by decide +kernel
example : grid.Nodup ∧ 3 ≤ grid.length := by decide +kernel
/-- the same grid in a shuffled order -/
example : grahamScan [(1, 1), (2, 2), (0, 0), (1, 0), (2, 1), (0, 2), (1, 2), (2, 0), (0, 1)] =
    [2, 8, 5, 1, 7] := by decide +kernel
/-- the grid is not in general position -/
example : ¬ GenPos grid := by
  intro h
  exact h 0 1 2 (by decide) (by decide) (by decide) (by decide) (by decide) (by decide)
    (by decide +kernel)

/-- three points beyond the pivot on the first ray (the vertical through the pivot) and three on the
last ray (the diagonal down-right): only the farthest point of each ray survives -/
private def rays : List P2 := [(0, 0), (0, 1), (0, 2), (0, 3), (2, 2), (1, -1), (2, -2), (3, -3), (3, 1)]

example : grahamScan rays = [0, 3, 4, 8, 7] := by decide +kernel
example : rays.Nodup ∧ 3 ≤ rays.length := by decide +kernel
/-- first ray not vertical: three points beyond the pivot on it, three on the last ray -/
example : grahamScan [(0, 0), (1, 3), (2, 6), (3, 9), (4, 4), (1, -1), (2, -2), (3, -3), (5, 1)] =
    [0, 3, 8, 7] := by decide +kernel

/-- five points on one line, shuffled: the output is the two end points (pivot first) -/
private def line5 : List P2 := [(2, 2), (0, 0), (4, 4), (1, 1), (3, 3)]

example : grahamScan line5 = [1, 2] := by decide +kernel
example : line5.Nodup ∧ 3 ≤ line5.length := by decide +kernel
/-- exactly three collinear points: all three are returned (the first three are pushed
unconditionally); the middle one is a boundary point, not a vertex -/
example : grahamScan [(0, 0), (1, 1), (2, 2)] = [0, 1, 2] := by decide +kernel
/-- exactly two points beyond the pivot on the first ray: the nearer one (index 1) is kept although
it is not a vertex — "only boundary points", not "only vertices" -/
example : grahamScan [(0, 0), (0, 1), (0, 2), (1, 0)] = [0, 1, 2, 3] := by decide +kernel

/-- the theorems instantiated on the grid: the centre (index 4) is right of all five edges of the
closed output polygon, strictly -/
example : ∀ i, i < 5 →
    ccw (grid[([0, 1, 2, 8, 6, 0] : List Nat)[i]?.getD 0]?.getD (0, 0))
      (grid[([0, 1, 2, 8, 6, 0] : List Nat)[i + 1]?.getD 0]?.getD (0, 0)) (grid[4]?.getD (0, 0)) < 0 := by
  decide +kernel

end Knee
