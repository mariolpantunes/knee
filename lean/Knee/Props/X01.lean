import Knee.Lemmas.Neighbourhood
import Knee.Lemmas.SlopeRanking
import Knee.Props.C17
/-!
# X01 — the R²-neighbourhood searches of `evaluation.py` and `knee_ranking.slope_ranking`

Model: `Knee/Model/Neighbourhood.lean` (`nbBinary`, `nbFast`, `nbLinear`, `slopeRanking`, `accuracyKneeCalls`, and the rank
specification `IsRankOf` / `isRankOfB`).
Every theorem holds for EVERY oracle `r2 : Nat → α`, every threshold `t : α`, every `a b : Nat`, where `α` is any type with a
decidable `<` (no order axioms are used: NaN-like incomparable values are covered; the driver uses `ExtQ`).
-/
namespace Knee

section
variable {α : Type} [LT α] [DecidableLT α]

/-! ## 1. `get_neighbourhood_binary` -/

/-- For all `a`, `b` (also `b > a`): the fuel `|a-b|² + |a-b| + 1` supplied by the wrapper is never exhausted. -/
theorem nbBinary_terminates (r2 : Nat → α) (t : α) (a b : Nat) : ∃ s, nbBinary r2 t a b = some s :=
  (nbBinary_run r2 t a b).imp fun _ h => h.1

/-- `b ≤ a`: `b ≤ i ≤ right ≤ a` holds at every loop head, so at exit, where moreover `right - i ≤ 1`. -/
theorem nbBinary_invariant (r2 : Nat → α) (t : α) (a b : Nat) (h : b ≤ a) (s : NbBin)
    (hs : nbBinary r2 t a b = some s) :
    b ≤ s.i ∧ s.i ≤ s.right ∧ s.right ≤ a ∧ s.right ≤ s.i + 1 ∧ ∀ j ∈ s.trace, b ≤ j ∧ j + 2 ≤ a := by
  obtain ⟨p1, p2, p3⟩ := nbBinLoop_inv_blind r2 t b (fun i r => b ≤ i ∧ i ≤ r ∧ r ≤ a) (nbBin_inv_le a b) _ b a s
    ⟨Nat.le_refl _, h, Nat.le_refl _⟩ hs
  refine ⟨p1.1, p1.2.1, p1.2.2, p2.2, fun j hj => ?_⟩
  obtain ⟨r', hinv, hfar⟩ := p3 j hj
  omega

/-- every index at which the oracle is evaluated lies in `[b, a-2]`: the slices `x[i:a+1]` have at least 3 points -/
theorem nbBinary_trace_range (r2 : Nat → α) (t : α) (a b : Nat) (h : b ≤ a) (s : NbBin)
    (hs : nbBinary r2 t a b = some s) : ∀ j ∈ s.trace, b ≤ j ∧ j + 2 ≤ a :=
  (nbBinary_invariant r2 t a b h s hs).2.2.2.2

/-- the final `right` is `a` itself or an index where the test `r2 < t` FAILED -/
theorem nbBinary_right_post (r2 : Nat → α) (t : α) (a b : Nat) (s : NbBin)
    (hs : nbBinary r2 t a b = some s) : s.right = a ∨ ¬ r2 s.right < t :=
  (nbBinLoop_inv r2 t b (fun _ r => r = a ∨ ¬ r2 r < t) (fun _ _ h _ _ => h) (fun _ _ _ _ h => Or.inr h)
    _ b a s (Or.inl rfl) hs).1

/-- at most `(a-b)² + (a-b)` iterations (the simple bound) -/
theorem nbBinary_iterations_le_quadratic (r2 : Nat → α) (t : α) (a b : Nat) (h : b ≤ a) (s : NbBin)
    (hs : nbBinary r2 t a b = some s) : s.trace.length ≤ (a - b) * (a - b) + (a - b) := by
  obtain ⟨s', hs', hlen⟩ := nbBinary_run r2 t a b
  rw [Nat.sub_eq_zero_of_le h, Nat.add_zero] at hlen
  exact Option.some.inj (hs.symm.trans hs') ▸ hlen

/-- At most `(⌊(a-b)/2⌋ + 1) · ⌈log₂(a-b)⌉` iterations (the bound of better order).  The loop is NOT an `O(log n)` bisection for
arbitrary (non-monotone) oracles: `right` may shrink by only 2 per `⌈log₂⌉` halvings of `right - i`; the second example of the
non-vacuity section needs 10 iterations for `a - b = 12` (a linear scan needs at most 11). -/
theorem nbBinary_iterations_le_nlogn (r2 : Nat → α) (t : α) (a b : Nat) (h : b ≤ a) (s : NbBin)
    (hs : nbBinary r2 t a b = some s) : s.trace.length ≤ ((a - b) / 2 + 1) * Nat.clog 2 (a - b) := by
  rw [Nat.add_mul, Nat.one_mul]
  exact (nbBinLoop_measure r2 t b _ (fun i r => (r - b) / 2 * Nat.clog 2 (a - b) + Nat.clog 2 (r - i))
    (nbBin_inv_le a b) (nbBin_log_le a b) _ b a ⟨Nat.le_refl _, h, Nat.le_refl _⟩).2 s hs

/-- no evaluation at all when `|a - b| ≤ 1` (`b = a`, `b = a-1`, and also `b = a+1`, which returns `a+1 ∉ [b, a]`) -/
theorem nbBinary_adjacent (r2 : Nat → α) (t : α) (a b : Nat) (h1 : a ≤ b + 1) (h2 : b ≤ a + 1) :
    nbBinary r2 t a b = some ⟨b, a, []⟩ := by
  unfold nbBinary nbBinFuel
  rw [nbBinLoop_succ, if_neg (not_or.2 ⟨Nat.not_lt.2 h1, Nat.not_lt.2 h2⟩)]

/-- `b > a`: the mirrored invariant `a ≤ right ≤ i ≤ b`, with `a < i` throughout: the returned index is NOT in `[b, a]` (which is
empty) -/
theorem nbBinary_invariant_gt (r2 : Nat → α) (t : α) (a b : Nat) (h : a < b) (s : NbBin)
    (hs : nbBinary r2 t a b = some s) :
    a ≤ s.right ∧ s.right ≤ s.i ∧ s.i ≤ b ∧ s.i ≤ s.right + 1 ∧ a < s.i := by
  obtain ⟨p1, p2, _⟩ := nbBinLoop_inv_blind r2 t b (fun i r => a ≤ r ∧ r ≤ i ∧ i ≤ b ∧ a < i) (nbBin_inv_gt a b) _ b a s
    ⟨Nat.le_refl _, Nat.le_of_lt h, Nat.le_refl _, h⟩ hs
  exact ⟨p1.1, p1.2.1, p1.2.2.1, p2.1, p1.2.2.2⟩

/-- `b ≥ a + 2`: the very first thing the loop does is to evaluate the oracle at `i = b > a`, i.e. on the EMPTY slice
`x[b:a+1]` (the real `linear_fit` raises `IndexError` there) -/
theorem nbBinary_gt_first_eval (r2 : Nat → α) (t : α) (a b : Nat) (h : a + 2 ≤ b) (s : NbBin)
    (hs : nbBinary r2 t a b = some s) : s.trace.head? = some b := by
  unfold nbBinary nbBinFuel at hs
  rw [nbBinLoop_succ, if_pos (by omega)] at hs
  obtain ⟨s', _, rfl⟩ := Option.map_eq_some_iff.1 hs
  rfl

/-! ## 2. `get_neighbourhood` -/

theorem nbLinear_negIndex_iff (r2 : Nat → α) (one t : α) (a b : Nat) :
    nbLinear r2 one t a b = .negIndex ↔ a = 0 := by
  have := nbLinear_spec r2 one t a b
  constructor
  · intro h; rwa [h] at this
  · rintro rfl; rfl

/-- `UnboundLocalError` exactly when `1.0 > t` is false (`t ≥ 1`, or `t` is NaN), whatever `a ≥ 1`, `b` and the data;
nothing has been evaluated then -/
theorem nbLinear_unbound_iff (r2 : Nat → α) (one t : α) (a b : Nat) (ha : 1 ≤ a) :
    (∃ tr, nbLinear r2 one t a b = .unbound tr) ↔ ¬ t < one := by
  cases h : nbLinear r2 one t a b with
  | negIndex => exact absurd ((nbLinear_negIndex_iff r2 one t a b).1 h) (Nat.ne_of_gt ha)
  | unbound tr => exact ⟨fun _ => (nbLinear_unbound_spec h).2.1, fun _ => ⟨tr, rfl⟩⟩
  | found k v tr => exact ⟨fun ⟨_, h'⟩ => (nomatch h'), fun h' => absurd (NbFound.of_eq h).lt_one h'⟩

theorem nbLinear_unbound_trace (r2 : Nat → α) (one t : α) (a b : Nat) (tr : List Nat)
    (h : nbLinear r2 one t a b = .unbound tr) : tr = [] :=
  (nbLinear_unbound_spec h).2.2

theorem nbLinear_found_iff (r2 : Nat → α) (one t : α) (a b : Nat) :
    (∃ k v tr, nbLinear r2 one t a b = .found k v tr) ↔ 1 ≤ a ∧ t < one := by
  cases h : nbLinear r2 one t a b with
  | negIndex =>
    have := (nbLinear_negIndex_iff r2 one t a b).1 h
    exact ⟨fun ⟨_, _, _, h'⟩ => (nomatch h'), fun h' => absurd this (Nat.ne_of_gt h'.1)⟩
  | unbound tr => exact ⟨fun ⟨_, _, _, h'⟩ => (nomatch h'), fun h' => absurd h'.2 (nbLinear_unbound_spec h).2.1⟩
  | found k v tr =>
    exact ⟨fun _ => ⟨Nat.zero_lt_of_lt (NbFound.of_eq h).lt, (NbFound.of_eq h).lt_one⟩, fun _ => ⟨k, v, tr, rfl⟩⟩

/-- "The longest run of r2 > t walking left from a-1": with `R j` the value the code has in hand at `j`
(`1.0` at `j = a-1`, the oracle below), the result `(k, v)` satisfies `v = R k > t`, every `j ∈ [k, a-1]` has `R j > t`,
and `k` is the left limit `b` or `R (k-1) > t` fails. -/
theorem nbLinear_run (r2 : Nat → α) (one t : α) (a b k : Nat) (v : α) (tr : List Nat)
    (h : nbLinear r2 one t a b = .found k v tr) :
    v = nbR r2 one a k ∧ t < v ∧ (∀ j, k ≤ j → j + 1 ≤ a → t < nbR r2 one a j) ∧
      (b < k → ¬ t < nbR r2 one a (k - 1)) :=
  have f := NbFound.of_eq h
  ⟨f.val, f.val ▸ f.run k (Nat.le_refl _) f.lt, f.run, f.stop⟩

/-- … and `k` is the SMALLEST index `i ≥ b` such that every `j ∈ [i, a-1]` has `R j > t` -/
theorem nbLinear_least (r2 : Nat → α) (one t : α) (a b k : Nat) (v : α) (tr : List Nat)
    (h : nbLinear r2 one t a b = .found k v tr) (i : Nat) (hb : b ≤ i)
    (hrun : ∀ j, i ≤ j → j + 1 ≤ a → t < nbR r2 one a j) : k ≤ i := by
  refine Nat.le_of_not_lt fun hik => ?_
  cases k with
  | zero => exact Nat.not_lt_zero i hik
  | succ k =>
    exact (NbFound.of_eq h).stop (Nat.lt_of_le_of_lt hb hik) (hrun k (Nat.le_of_lt_succ hik) (Nat.le_of_lt (NbFound.of_eq h).lt))

/-! ## 3. `get_neighbourhood_fast` -/

theorem nbFast_terminates (r2 : Nat → α) (t : α) (a b : Nat) : ∃ f, nbFast r2 t a b = some f := by
  obtain ⟨s, hs⟩ := nbBinary_terminates r2 t a b
  obtain ⟨k, _, _, _, _, h⟩ := nbFast_eq hs
  exact ⟨_, h⟩

/-- for `b ≤ a`: the returned index lies in `[binary result, a]` (hence in `[b, a]`), the returned r2 is the oracle at that index and
`r2 < t` FAILS there unless the index is `a`; every index skipped by the linear phase has `r2 < t`; the linear phase evaluates the
contiguous indices `binary result … returned index` -/
theorem nbFast_spec (r2 : Nat → α) (t : α) (a b : Nat) (h : b ≤ a) (s : NbBin) (f : NbFast α)
    (hs : nbBinary r2 t a b = some s) (hf : nbFast r2 t a b = some f) :
    s.i ≤ f.i ∧ f.i ≤ a ∧ b ≤ f.i ∧ f.r2 = r2 f.i ∧ (¬ f.r2 < t ∨ f.i = a) ∧
      (∀ j, s.i ≤ j → j < f.i → r2 j < t) ∧
      f.binTrace = s.trace ∧ f.trace = List.range' s.i (f.i - s.i + 1) := by
  obtain ⟨hb1, hb2, hb3, _⟩ := nbBinary_invariant r2 t a b h s hs
  obtain ⟨k, h1, h2, h3, h4, h5⟩ := nbFast_eq hs
  obtain rfl := Option.some.inj (hf.symm.trans h5)
  -- the binary result is `≤ a`, so the limit of the walk is `a`
  rw [Nat.add_sub_cancel' (Nat.le_trans hb2 hb3)] at h2 h4
  exact ⟨h1, h2, Nat.le_trans hb1 h1, rfl, h4, h3, rfl, rfl⟩

/-- total number of oracle evaluations of the linear phase: at most `a - b + 1` -/
theorem nbFast_linear_evaluations (r2 : Nat → α) (t : α) (a b : Nat) (h : b ≤ a) (f : NbFast α)
    (hf : nbFast r2 t a b = some f) : f.trace.length ≤ a - b + 1 := by
  obtain ⟨s, hs⟩ := nbBinary_terminates r2 t a b
  obtain ⟨_, q2, _, _, _, _, _, q8⟩ := nbFast_spec r2 t a b h s f hs hf
  rw [q8, List.length_range']
  exact Nat.succ_le_succ
    (Nat.le_trans (Nat.sub_le_sub_right q2 _) (Nat.sub_le_sub_left (nbBinary_invariant r2 t a b h s hs).1 _))

/-- `b > a`: the linear phase does not move (`i < a` is false at once) and its single evaluation is at the binary result, which is
`> a`: an EMPTY slice in the real code (`IndexError`), although `get_neighbourhood_binary(a, a+1)` itself returns -/
theorem nbFast_gt (r2 : Nat → α) (t : α) (a b : Nat) (h : a < b) (s : NbBin) (f : NbFast α)
    (hs : nbBinary r2 t a b = some s) (hf : nbFast r2 t a b = some f) :
    f.i = s.i ∧ a < f.i ∧ f.trace = [s.i] := by
  have hgt := (nbBinary_invariant_gt r2 t a b h s hs).2.2.2.2
  obtain ⟨k, h1, h2, _, _, h5⟩ := nbFast_eq hs
  obtain rfl := Option.some.inj (hf.symm.trans h5)
  -- the binary result is `> a`, so the walk does not move
  rw [Nat.sub_eq_zero_of_le (Nat.le_of_lt hgt)] at h2
  obtain rfl := Nat.le_antisymm h2 h1
  exact ⟨rfl, hgt, by show List.range' s.i (s.i - s.i + 1) = [s.i]; rw [Nat.sub_self]; rfl⟩

/-! ## 4. `slope_ranking` -/

/-- a single knee: `[1.0]`, nothing is evaluated (whatever the knee, `t` and the data) -/
theorem slopeRanking_single (r2 : Nat → Nat → α) (one t : α) (aslope : Nat → Nat → Rat) (k : Nat) :
    slopeRanking r2 one t aslope [k] = .ok [1] := rfl

/-- no knee: `knees[0]` raises -/
theorem slopeRanking_empty (r2 : Nat → Nat → α) (one t : α) (aslope : Nat → Nat → Rat) :
    slopeRanking r2 one t aslope [] = .error .emptyKnees := rfl

/-- With two or more knees the output, when there is one, is the normalised rank vector of the `|slope|` values at the indices
returned by the successive `get_neighbourhood` calls: the `else [1.0]` after the ranking is dead code. -/
theorem slopeRanking_dead_branch (r2 : Nat → Nat → α) (one t : α) (aslope : Nat → Nat → Rat) (knees : List Nat)
    (hm : 2 ≤ knees.length) (l : List Rat) :
    slopeRanking r2 one t aslope knees = .ok l ↔
      ∃ idx, nbIdxSeq 0 (slopeCalls r2 one t knees) = .ok idx ∧
        l = normRanks (rankOf (List.zipWith (fun ab k => aslope ab.1 k) (nbArgs knees) idx)) := by
  rw [slopeRanking_of_two_le r2 one t aslope knees hm, except_map_ok_iff]
  refine exists_congr fun idx => and_congr_right fun hidx => ?_
  rw [if_pos, eq_comm]
  rw [rankOf_length, length_zipWith_nbArgs _ (slopeCalls_ok_length hidx)]
  exact hm

/-- The preconditions the code silently needs: with at least two knees, `slope_ranking` returns iff `t < 1.0` and every knee is `≥ 1`
(a knee at index 0 makes `get_neighbourhood` slice `x[-1:1]`; `t ≥ 1` leaves `previous_res` unbound).  No order on the knees is
needed for the call to return. -/
theorem slopeRanking_ok_iff (r2 : Nat → Nat → α) (one t : α) (aslope : Nat → Nat → Rat) (knees : List Nat)
    (hm : 2 ≤ knees.length) :
    (∃ l, slopeRanking r2 one t aslope knees = .ok l) ↔ t < one ∧ ∀ k ∈ knees, 1 ≤ k := by
  obtain ⟨k0, hk0⟩ : ∃ k0, k0 ∈ knees := List.exists_mem_of_length_pos (by omega)
  calc (∃ l, slopeRanking r2 one t aslope knees = .ok l)
      ↔ ∃ idx, nbIdxSeq 0 (slopeCalls r2 one t knees) = .ok idx := by
        simp only [slopeRanking_dead_branch r2 one t aslope knees hm]
        exact ⟨fun ⟨_, idx, h, _⟩ => ⟨idx, h⟩, fun ⟨idx, h⟩ => ⟨_, idx, h, rfl⟩⟩
    _ ↔ ∀ k ∈ knees, 1 ≤ k ∧ t < one := by
        rw [nbIdxSeq_exists_iff, slopeCalls, List.forall_mem_map, ← forall_nbArgs_fst]
        exact forall₂_congr fun ab _ => nbLinear_found_iff (r2 ab.1) one t ab.1 ab.2
    _ ↔ t < one ∧ ∀ k ∈ knees, 1 ≤ k :=
        ⟨fun h => ⟨(h k0 hk0).2, fun k hk => (h k hk).1⟩, fun h k hk => ⟨h.2 k hk, h.1⟩⟩

/-- Shape of the output (two or more knees): with `idx` the indices returned by the successive `get_neighbourhood` calls and `vals`
the `|slope|` oracle at those indices, the output is `rank(vals) / (m-1)` entry by entry, one value per knee, and `rank(vals)` is a
permutation of `0..m-1` (so the output is a permutation of `0, 1/(m-1), …, 1`). -/
theorem slopeRanking_values (r2 : Nat → Nat → α) (one t : α) (aslope : Nat → Nat → Rat) (knees : List Nat)
    (hm : 2 ≤ knees.length) (l : List Rat) (h : slopeRanking r2 one t aslope knees = .ok l) :
    ∃ idx : List Nat, nbIdxSeq 0 (slopeCalls r2 one t knees) = .ok idx ∧ idx.length = knees.length ∧
      let vals := List.zipWith (fun ab k => aslope ab.1 k) (nbArgs knees) idx
      vals.length = knees.length ∧
      (rankOf vals).Perm (List.range knees.length) ∧
      l = (rankOf vals).map (fun (k : Nat) => ((k : Int) : Rat) / (((knees.length - 1 : Nat) : Int) : Rat)) ∧
      l.length = knees.length := by
  obtain ⟨idx, hidx, rfl⟩ := (slopeRanking_dead_branch r2 one t aslope knees hm l).1 h
  have hlen := slopeCalls_ok_length hidx
  have hvals := length_zipWith_nbArgs (fun ab k => aslope ab.1 k) hlen
  have hp : (rankOf _).Perm (List.range knees.length) := hvals ▸ rankOf_perm _
  refine ⟨idx, hidx, hlen, hvals, hp, normRanks_of_perm _ _ hp (Nat.le_of_succ_le hm), ?_⟩
  rw [normRanks, List.length_map, rankOf_length, hvals]

/-- one rank per knee, in every case -/
theorem slopeRanking_length (r2 : Nat → Nat → α) (one t : α) (aslope : Nat → Nat → Rat) (knees : List Nat)
    (l : List Rat) (h : slopeRanking r2 one t aslope knees = .ok l) : l.length = knees.length := by
  rcases knees with _ | ⟨k1, _ | ⟨k2, ks⟩⟩
  · cases h
  · cases h; rfl
  · obtain ⟨_, _, _, _, _, _, hl⟩ := slopeRanking_values r2 one t aslope (k1 :: k2 :: ks) (Nat.le_add_left 2 _) l h
    exact hl

/-- Index arguments stay in range: for strictly increasing knees `≥ 1` and `t < 1.0`, call number `p` is
`get_neighbourhood(x, y, knees[p], knees[p-1], t)` (`0` for `p = 0`) with `b < a`; it returns an index in `[b, a-1]` and evaluates
the oracle only at indices in `[b, a-2]`: nothing outside `[0, last knee]` is ever touched. -/
theorem slopeRanking_calls_in_range (r2 : Nat → Nat → α) (one t : α) (knees : List Nat)
    (hs : knees.Pairwise (· < ·)) (h1 : ∀ k ∈ knees, 1 ≤ k) (ht : t < one) :
    ∀ ab ∈ nbArgs knees, ab.1 ∈ knees ∧ ab.2 < ab.1 ∧
      ∃ k v tr, nbLinear (r2 ab.1) one t ab.1 ab.2 = .found k v tr ∧ ab.2 ≤ k ∧ k < ab.1 ∧
        ∀ j ∈ tr, ab.2 ≤ j ∧ j + 2 ≤ ab.1 := by
  intro ab hab
  have hmem : ab.1 ∈ knees := (List.of_mem_zip hab).1
  have hlt : ab.2 < ab.1 := nbArgs_rel (· < ·) knees h1 hs ab hab
  obtain ⟨k, v, tr, hf⟩ := (nbLinear_found_iff (r2 ab.1) one t ab.1 ab.2).2 ⟨h1 _ hmem, ht⟩
  have f := NbFound.of_eq hf
  have hk := f.lt
  have hbk : ab.2 ≤ k := f.ge.elim id (by omega)
  refine ⟨hmem, hlt, k, v, tr, hf, hbk, hk, fun j hj => ?_⟩
  rw [f.trace, List.mem_reverse, List.mem_range'_1] at hj
  split at hj <;> omega

/-- which exception comes first: `t < 1.0` false and a first knee `≥ 1` → the first call raises `UnboundLocalError`;
a first knee `0` → the first call slices `x[-1:1]` -/
theorem slopeRanking_first_error (r2 : Nat → Nat → α) (one t : α) (aslope : Nat → Nat → Rat) (k1 k2 : Nat) (ks : List Nat) :
    (k1 = 0 → slopeRanking r2 one t aslope (k1 :: k2 :: ks) = .error (.negIndex 0)) ∧
    (1 ≤ k1 → ¬ t < one → slopeRanking r2 one t aslope (k1 :: k2 :: ks) = .error (.unbound 0)) := by
  constructor
  · rintro rfl
    rfl
  · intro hk ht
    obtain ⟨tr, htr⟩ := (nbLinear_unbound_iff (r2 k1) one t k1 0 hk).2 ht
    show Except.map _ (nbIdxSeq 0 (nbLinear (r2 k1) one t k1 0 :: _)) = _
    rw [htr]
    rfl

/-! ## 5. the index skeleton of `accuracy_knee` -/

/-- `accuracy_knee` calls `get_neighbourhood_fast(x, y, knees[p], previous knee)` (default threshold!) for `p = 0, 1, …`; for
non-decreasing knees every call terminates with `b ≤ a`, returns an index in `[previous knee, knee]` and its r2 is not below the
threshold unless the index is the knee itself -/
theorem accuracyKnee_calls_in_range (r2 : Nat → Nat → α) (tf : α) (knees : List Nat) (hs : knees.Pairwise (· ≤ ·)) :
    (accuracyKneeCalls r2 tf knees).length = knees.length ∧
    ∀ ab ∈ nbArgs knees, ab.2 ≤ ab.1 ∧
      ∃ f, nbFast (r2 ab.1) tf ab.1 ab.2 = some f ∧ ab.2 ≤ f.i ∧ f.i ≤ ab.1 ∧ (¬ f.r2 < tf ∨ f.i = ab.1) := by
  refine ⟨by simp [accuracyKneeCalls, nbArgs_length], ?_⟩
  intro ab hab
  have hle : ab.2 ≤ ab.1 := nbArgs_rel (· ≤ ·) knees (fun _ _ => Nat.zero_le _) hs ab hab
  obtain ⟨f, hf⟩ := nbFast_terminates (r2 ab.1) tf ab.1 ab.2
  obtain ⟨s, hs'⟩ := nbBinary_terminates (r2 ab.1) tf ab.1 ab.2
  obtain ⟨_, q2, q3, _, q5, _⟩ := nbFast_spec (r2 ab.1) tf ab.1 ab.2 hle s f hs' hf
  exact ⟨hle, f, hf, q3, q2, q5⟩

end

/-! ## 6. `rank`: ties -/

/-- `argsort` leaves the order of equal `|slope|` unspecified: whatever rank vector `r` NumPy produces with `IsRankOf vals r`, the
min-max normalisation still yields `r / (m-1)`, a permutation of `0, 1/(m-1), …, 1` -/
theorem normRanks_of_isRankOf (vals : List Rat) (r : List Nat) (h : IsRankOf vals r) (hm : 1 ≤ vals.length) :
    r.Perm (List.range vals.length) ∧
      normRanks r = r.map fun (k : Nat) => ((k : Int) : Rat) / (((vals.length - 1 : Nat) : Int) : Rat) :=
  ⟨isRankOf_perm vals r h, normRanks_of_perm r vals.length (isRankOf_perm vals r h) hm⟩

/-- the model's stable rank is one of the admissible rank vectors … -/
theorem rankOf_admissible (vals : List Rat) : IsRankOf vals (rankOf vals) := by
  refine ⟨rankOf_length vals, fun k hk => (rankOf_perm vals).mem_iff.2 (List.mem_range.2 hk), fun i j hi hj hlt => ?_⟩
  rw [rankOf_getD vals hi, rankOf_getD vals hj]
  exact rk_lt_of_lt vals hi hlt

/-- … and the ONLY one when no two values are equal (then the real output must equal the model's exactly) -/
theorem isRankOf_unique (vals : List Rat) (r : List Nat) (h : IsRankOf vals r)
    (hd : ∀ i j, i < vals.length → j < vals.length → i ≠ j → vals[i]?.getD 0 ≠ vals[j]?.getD 0) : r = rankOf vals := by
  have hperm := isRankOf_perm vals r h
  obtain ⟨hlen, _, hord⟩ := h
  rw [rankOf_eq]
  conv_lhs => rw [list_eq_map_range r 0, hlen]
  refine List.map_congr_left fun i hi => ?_
  have hi := List.mem_range.1 hi
  -- both sides count the `j` that come before `i`: by rank on the left, by value (then position) on the right
  rw [perm_range_getD_eq_countP r _ hperm i hi, rk, ← List.countP_eq_length_filter]
  refine List.countP_congr fun j hj => ?_
  have hj := List.mem_range.1 hj
  rw [decide_eq_true_eq, rkLt_iff]
  constructor
  · intro hlt
    rcases lt_trichotomy (vals[j]?.getD 0) (vals[i]?.getD 0) with h1 | h1 | h1
    · exact Or.inl h1
    · exact absurd h1 (hd j i hj hi fun e => Nat.lt_irrefl _ (e ▸ hlt))
    · exact absurd hlt (Nat.lt_asymm (hord i j hi hj h1))
  · rintro (h1 | ⟨h1, h2⟩)
    · exact hord j i hj hi h1
    · exact absurd h1 (hd j i hj hi (Nat.ne_of_lt h2))

/-- the driver's executable judge of real outputs decides exactly `IsRankOf` -/
theorem isRankOfB_correct (vals : List Rat) (r : List Nat) : isRankOfB vals r = true ↔ IsRankOf vals r := by
  unfold isRankOfB IsRankOf
  simp only [Bool.and_eq_true, decide_eq_true_eq, List.all_eq_true, List.mem_range, Bool.or_eq_true,
    Bool.not_eq_true', decide_eq_false_iff_not, List.contains_iff_mem, and_assoc, ← imp_iff_not_or]
  exact and_congr_right fun _ => and_congr_right fun _ =>
    ⟨fun h i j hi hj => h i hi j hj, fun h i hi j hj => h i j hi hj⟩

/-! ## Non-vacuity: the models evaluated on concrete oracles

`α = Nat` (r2 in percent), oracle given by a table; `one = 100`. -/

private def tab (l : List Nat) : Nat → Nat := fun i => l[i]?.getD 0

/-- binary search, `a = 9`, `b = 0`, threshold 65: five evaluations, returns 5 with `right = 6` (`r2 6 = 70 ≥ 65`) -/
example : nbBinary (tab [10, 20, 30, 40, 50, 60, 70, 80, 90, 95]) 65 9 0 = some ⟨5, 6, [0, 4, 6, 3, 4]⟩ := by
  decide +kernel
/-- a non-monotone oracle (`r2 i < t` at `i ∈ {0, 2, 3, 4, 6}` only): 10 iterations for `a - b = 12`, indices 6 and 3 are fitted twice -/
example : nbBinary (tab [0, 1, 0, 0, 0, 1, 0, 1, 1, 1, 1, 1, 1]) 1 12 0 = some ⟨4, 5, [0, 6, 9, 4, 6, 7, 3, 5, 2, 3]⟩ := by
  decide +kernel
/-- `b = a + 1`: returns `a + 1`, outside `[b, a]`, without evaluating anything -/
example : nbBinary (tab []) 1 5 6 = some ⟨6, 5, []⟩ := by decide +kernel
/-- `b = a + 9`: terminates in the model, but the first evaluation is at index 14 > a (an empty slice in the real code) -/
example : nbBinary (tab [0, 1, 0, 0, 0, 1, 0, 1, 1, 1, 1, 1, 1]) 1 5 14 = some ⟨12, 11, [14, 9, 11]⟩ := by decide +kernel
/-- fast search: binary phase returns 5 (`r2 = 60 < 65`), one linear step to 6 (`r2 = 70`) -/
example : nbFast (tab [10, 20, 30, 40, 50, 60, 70, 80, 90, 5]) 65 9 0 = some ⟨6, 70, [0, 4, 6, 3, 4], [5, 6]⟩ := by
  decide +kernel
/-- fast search ending at `a` with `r2 a = 5 < t`: the "or the index is `a`" case -/
example : nbFast (tab [10, 20, 30, 40, 50, 60, 70, 80, 60, 5]) 85 9 0 = some ⟨9, 5, [0, 4, 6, 7], [8, 9]⟩ := by
  decide +kernel
/-- linear search from `a - 1 = 8` down: 94, 93, 91, 92 are `> 90`, 40 is not: returns 4 -/
example : nbLinear (tab [10, 20, 95, 40, 92, 91, 93, 94, 0, 0]) 100 90 9 0 = .found 4 92 [7, 6, 5, 4, 3] := by
  decide +kernel
/-- stopped by the left limit `b = 5` with a good value in hand -/
example : nbLinear (tab [10, 20, 95, 40, 92, 91, 93, 94, 0, 0]) 100 90 9 5 = .found 5 91 [7, 6, 5] := by decide +kernel
/-- `b ≥ a - 1`: returns `a - 1` with the constant `1.0`, the oracle (0 at index 8!) is never consulted -/
example : nbLinear (tab [10, 20, 95, 40, 92, 91, 93, 94, 0, 0]) 100 90 9 8 = .found 8 100 [] := by decide +kernel
example : nbLinear (tab [10, 20, 95, 40, 92, 91, 93, 94, 0, 0]) 100 90 9 12 = .found 8 100 [] := by decide +kernel
/-- `t = 1.0`: `UnboundLocalError` -/
example : nbLinear (tab [10, 20, 95, 40, 92, 91, 93, 94, 0, 0]) 100 100 9 5 = .unbound [] := by decide +kernel
example : nbLinear (tab []) 100 90 0 0 = .negIndex := by decide +kernel
/-- NaN values (`ExtQ`): a NaN r2 stops the walk like a bad value; a NaN threshold leaves `previous_res` unbound -/
example : nbLinear (fun i => if i = 5 then ExtQ.nan else .fin 1) (.fin 1) (.fin (9 / 10)) 9 0 = .found 6 (.fin 1) [7, 6, 5] := by
  decide +kernel
example : nbLinear (fun _ => ExtQ.fin 1) (.fin 1) .nan 9 0 = .unbound [] := by decide +kernel
/-- NaN r2 in the binary search takes the `else` branch (`r2 < t` is false) -/
example : nbBinary (fun _ => ExtQ.nan) (.fin (9 / 10)) 9 0 = some ⟨0, 0, [0]⟩ := by decide +kernel

private def r2tab : Nat → Nat → Nat := fun a i =>
  (([[], [], [], [50, 95, 100], [], [], [0, 0, 0, 80, 95, 100], [], [0, 0, 0, 0, 0, 0, 95, 100]] : List (List Nat))[a]?.getD []).getD i 0
private def sltab : Nat → Nat → Rat := fun a i =>
  (([[], [], [], [5, 7, 9], [], [], [0, 0, 0, 3, 2, 1], [], [0, 0, 0, 0, 0, 0, 4, 6]] : List (List Rat))[a]?.getD []).getD i 0

/-- three knees 3 < 6 < 8: neighbourhood indices 1, 4, 6, `|slope|` there 7, 2, 4, ranks 2, 0, 1, output 1, 0, 1/2 -/
example : slopeRanking r2tab 100 90 sltab [3, 6, 8] = .ok [1, 0, 1 / 2] := by decide +kernel
example : slopeRanking r2tab 100 100 sltab [3, 6, 8] = .error (.unbound 0) := by decide +kernel
example : slopeRanking r2tab 100 90 sltab [3, 0, 8] = .error (.negIndex 1) := by decide +kernel
/-- hypotheses of `slopeRanking_calls_in_range` are satisfiable -/
example : ([3, 6, 8] : List Nat).Pairwise (· < ·) ∧ (∀ k ∈ ([3, 6, 8] : List Nat), 1 ≤ k) ∧ (90 : Nat) < 100 := by decide +kernel
/-- ties: both `[0, 1, 2]` and `[1, 0, 2]` are admissible ranks of `[5, 5, 7]`; the model picks the stable one -/
example : isRankOfB [5, 5, 7] [0, 1, 2] = true ∧ isRankOfB [5, 5, 7] [1, 0, 2] = true ∧ isRankOfB [5, 5, 7] [0, 2, 1] = false ∧
    rankOf [5, 5, 7] = [0, 1, 2] := by decide +kernel
example : normRanks [2, 0, 1] = [1, 0, 1 / 2] := by decide +kernel
/-- the three `get_neighbourhood_fast` calls of `accuracy_knee` for knees 3 ≤ 6 ≤ 8 return the indices 1, 4, 6 -/
example : (accuracyKneeCalls r2tab 90 [3, 6, 8]).map (fun c => c.map (·.i)) = [some 1, some 4, some 6] := by decide +kernel
example : ([3, 6, 8] : List Nat).Pairwise (· ≤ ·) := by decide +kernel

end Knee
