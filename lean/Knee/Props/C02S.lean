import Knee.Props.C02
import Knee.Props.C02D
/-!
# C02S — self-similarity of `multi_knee` stated on SLICES (the shift lemma)

The C02 property reads: the result of `multi_knee(points)` "equals `{k}` united with the result on
`points[0..k]` and `(k+1) +` the result on `points[k+1..]`".  `Props/C02.lean` states it with the
in-order recursion `multiKneeRec` on *absolute* sub-ranges of the one curve.  Here it is stated as
the Python reader sees it: with `multiKnee` itself run on the two slices as curves of their own.

The detector's answer `det l r = some k` is relative to `l`, as the Python detector returns an index
into `pt = points[l:r]`.  So the oracles of the slice `points[off:]` are those of the whole curve at
the shifted ranges, answer unchanged (`shiftDet`, `shiftGate`); what is re-based is the output of
`multiKnee` on the slice: `(· + off)`.

Oracles: detector and gate.  Naturals only; no tolerance.
-/
namespace Knee

/-- The detector oracle of the slice `points[off:]`. -/
def shiftDet (off : Nat) (det : Nat → Nat → Option Nat) : Nat → Nat → Option Nat :=
  fun l r => det (l + off) (r + off)

/-- The straightness-gate oracle of the slice `points[off:]`. -/
def shiftGate (off : Nat) (gate : Nat → Nat → Bool) : Nat → Nat → Bool :=
  fun l r => gate (l + off) (r + off)

variable {det : Nat → Nat → Option Nat} {gate : Nat → Nat → Bool} {t2 n : Nat}

/-- **C02S.** The slice starting at `0` has the oracles of the whole curve (`points[0:]`). -/
@[simp] theorem shiftDet_zero (det : Nat → Nat → Option Nat) : shiftDet 0 det = det := rfl

/-- **C02S.** The slice starting at `0` has the gate of the whole curve. -/
@[simp] theorem shiftGate_zero (gate : Nat → Nat → Bool) : shiftGate 0 gate = gate := rfl

/-- **C02S.** A slice of a slice is a slice: `points[a:][b:] = points[a+b:]`. -/
theorem shiftDet_shiftDet (a b : Nat) (det : Nat → Nat → Option Nat) :
    shiftDet b (shiftDet a det) = shiftDet (b + a) det := by
  funext l r
  simp only [shiftDet, Nat.add_assoc]

/-- **C02S.** A slice of a slice is a slice (gate). -/
theorem shiftGate_shiftGate (a b : Nat) (gate : Nat → Nat → Bool) :
    shiftGate b (shiftGate a gate) = shiftGate (b + a) gate := by
  funext l r
  simp only [shiftGate, Nat.add_assoc]

/-- **C02S (contract is slice-invariant).** If every detector answer on the whole curve leaves both
children non-empty, so does every answer on a slice. -/
theorem detOK_shift (off : Nat) (h : DetOK det) : DetOK (shiftDet off det) :=
  fun l r k hk => Nat.add_sub_add_right r off l ▸ h (l + off) (r + off) k hk

/-- **C02S (strict contract is slice-invariant).** The same for a detector that never answers `0`. -/
theorem detInterior_shift (off : Nat) (h : DetInterior det) : DetInterior (shiftDet off det) :=
  fun l r k hk => Nat.add_sub_add_right r off l ▸ h (l + off) (r + off) k hk

theorem DetBound.shift {a : Nat} (off : Nat) (h : DetBound a t2 det) :
    DetBound a t2 (shiftDet off det) :=
  fun l r k hl hk => Nat.add_sub_add_right r off l ▸
    h (l + off) (r + off) k ((Nat.add_sub_add_right r off l).symm ▸ hl) hk

/-- **C02S (strict contract on large ranges is slice-invariant).** A range of the slice is a
range of the curve of the same length, and the contract looks at the length only. -/
theorem detInteriorLarge_shift (off : Nat) (h : DetInteriorLarge t2 det) :
    DetInteriorLarge t2 (shiftDet off det) :=
  h.detBound.shift off

/-- **C02S (the straightness gate of a slice).** The gate `smape(points[l:r]) >= t1` (default `1.0`
for at most two points) of the slice `points[off:]` is the same gate built from the slice's own
cost oracle. -/
theorem shiftGate_gateOf (off : Nat) (t1 : Rat) (sm : Nat → Nat → Rat) :
    shiftGate off (gateOf t1 sm) = gateOf t1 (fun l r => sm (l + off) (r + off)) := by
  funext l r
  simp only [shiftGate, gateOf, Nat.add_sub_add_right]

/-- **C02S (curvature on a slice).** The curvature detector of the slice `points[off:]` is the
curvature detector fed with the slice's criterion arrays. -/
theorem shiftDet_detCurv (off : Nat) (crit : Nat → Nat → List Rat) :
    shiftDet off (detCurv crit) = detCurv (fun l r => crit (l + off) (r + off)) := rfl

/-- **C02S (Menger on a slice).** The Menger detector of the slice is the Menger detector fed with
the slice's curvature arrays. -/
theorem shiftDet_detMenger (off : Nat) (mc : Nat → Nat → List Rat) :
    shiftDet off (detMenger mc) = detMenger (fun l r => mc (l + off) (r + off)) := rfl

/-- **C02S (DFDT on a slice).** The DFDT detector of the slice is the DFDT detector fed with the
slice's difference arrays; the length `r - l` it passes on is that of the shifted range. -/
theorem shiftDet_detDfdt (off : Nat) (diffs : Nat → Nat → Nat → List Rat) :
    shiftDet off (detDfdt diffs) = detDfdt (fun l r => diffs (l + off) (r + off)) := by
  funext l r
  simp only [shiftDet, detDfdt, Nat.add_sub_add_right]

/-- **C02S (L-method on a slice).** The same for the L-method, for every refinement option and limit. -/
theorem shiftDet_detLmethod (off : Nat) (errs : Nat → Nat → Nat → List Rat) (mode : Refinement)
    (limit : Nat) :
    shiftDet off (detLmethod errs mode limit) =
      detLmethod (fun l r => errs (l + off) (r + off)) mode limit := by
  funext l r
  simp only [shiftDet, detLmethod, Nat.add_sub_add_right]

/-- **C02S (Kneedle on a slice).** The same for Kneedle and the slice's difference curves. -/
theorem shiftDet_detKneedle (off : Nat) (dd : Nat → Nat → List Rat) :
    shiftDet off (detKneedle dd) = detKneedle (fun l r => dd (l + off) (r + off)) := rfl

/-- **C02S (shift lemma).** Running the recursion on the slice `points[off:]` and adding `off` to
every knee gives the recursion of the whole curve on the shifted range — for every fuel, every
range, and with no assumption on the detector. -/
theorem multiKneeRec_shift (off : Nat) (det : Nat → Nat → Option Nat) (gate : Nat → Nat → Bool)
    (t2 f l r : Nat) :
    (multiKneeRec (shiftDet off det) (shiftGate off gate) t2 f l r).map (· + off) =
      multiKneeRec det gate t2 f (l + off) (r + off) := by
  induction f generalizing l r with
  | zero => rfl
  | succ f ih =>
    rw [multiKneeRec_succ, multiKneeRec_succ, Nat.add_sub_add_right]
    by_cases hg : r - l > t2 ∧ gate (l + off) (r + off) = true
    · rw [if_pos hg, if_pos (show _ ∧ shiftGate off gate l r = true from hg)]
      simp only [shiftDet]
      cases det (l + off) (r + off) with
      | none => rfl
      | some k => simp only [List.map_append, List.map_cons, ih, Nat.add_right_comm _ off]
    · rw [if_neg hg, if_neg (show ¬ (_ ∧ shiftGate off gate l r = true) from hg)]
      rfl

/-- **C02S (a sub-range is a curve of its own).** With the contract on large ranges, the part of
the in-order recursion that handles the sub-range `[l, r)` (any sufficient fuel) is `multi_knee`
called on the slice `points[l:r]`, re-based by `l`. -/
theorem multiKneeRec_eq_slice (hc : DetOKLarge t2 det) (l r f : Nat) (hlr : l < r)
    (hf : r - l ≤ f) :
    (multiKnee (shiftDet l det) (shiftGate l gate) t2 (r - l)).map (fun ks => ks.map (· + l)) =
      some (multiKneeRec det gate t2 f l r) := by
  rw [multiKnee_eq_rec_large (hc.detBound.shift l).detOKLarge (Nat.sub_pos_of_lt hlr), Option.map_some,
    multiKneeRec_shift, Nat.zero_add, Nat.sub_add_cancel (Nat.le_of_lt hlr),
    multiKneeRec_fuel hc (r - l) f l r (Nat.le_refl _) hf]

/-- **C02S (self-similarity on slices, contract on large ranges).** If the whole curve has more
than `t2` points, passes the straightness gate, and the detector answers `k`, then
`multi_knee(points)` is: `multi_knee(points[0:k+1])`, then `k`, then `multi_knee(points[k+1:])`
with `k + 1` added to every index — where the two inner calls are complete runs of the work-stack
loop on the slices (with the slices' own oracles), both of which terminate. -/
theorem multiKnee_slice_large (hc : DetOKLarge t2 det) (h1 : n > t2)
    (h2 : gate 0 n = true) (k : Nat) (hk : det 0 n = some k) :
    ∃ L R, multiKnee det gate t2 (k + 1) = some L ∧
      multiKnee (shiftDet (k + 1) det) (shiftGate (k + 1) gate) t2 (n - (k + 1)) = some R ∧
      multiKnee det gate t2 n = some (L ++ [k] ++ R.map (· + (k + 1))) := by
  have hkn : k + 2 ≤ n := hc 0 n k h1 hk
  obtain ⟨R, hR, hR'⟩ := Option.map_eq_some_iff.mp
    (multiKneeRec_eq_slice (gate := gate) hc (k + 1) n n hkn (Nat.sub_le _ _))
  refine ⟨_, R, multiKnee_eq_rec_large hc k.succ_pos, hR, ?_⟩
  rw [multiKnee_self_similar_large hc h1 h2 k hk, hR',
    multiKneeRec_fuel hc n (k + 1) 0 (k + 1) (Nat.le_of_lt hkn) (Nat.le_refl _),
    List.append_assoc, List.singleton_append]

/-- **C02S (self-similarity on slices).** `multiKnee_self_similar` restated with `multi_knee` on
the slices: under the hypotheses of `multiKnee_self_similar`,
`multi_knee(points) = multi_knee(points[:k+1]) ++ [k] ++ [k+1+x for x in multi_knee(points[k+1:])]`.
(`hn` follows from `h1`.) -/
theorem multiKnee_slice (hc : DetOK det) (hn : 1 ≤ n) (h1 : n > t2) (h2 : gate 0 n = true)
    (k : Nat) (hk : det 0 n = some k) :
    ∃ L R, multiKnee det gate t2 (k + 1) = some L ∧
      multiKnee (shiftDet (k + 1) det) (shiftGate (k + 1) gate) t2 (n - (k + 1)) = some R ∧
      multiKnee det gate t2 n = some (L ++ [k] ++ R.map (· + (k + 1))) :=
  multiKnee_slice_large (hc.detOKLarge t2) h1 h2 k hk

/-- **C02S (empty cases).** A curve — or a slice `points[off:off+m]` seen as a curve of `m ≥ 1`
points with its shifted oracles — that has at most `t2` points or fails the straightness gate has
no knees; the detector is never called (no assumption on it). -/
theorem multiKnee_slice_empty (off m : Nat) (hm : 1 ≤ m)
    (h : m ≤ t2 ∨ gate off (off + m) = false) :
    multiKnee (shiftDet off det) (shiftGate off gate) t2 m = some [] :=
  multiKnee_empty hm (h.imp_right fun h => by rwa [shiftGate, Nat.zero_add, Nat.add_comm m off])

/-- **C02S (the complete case analysis).** On a non-empty curve, with the contract on large
ranges, `multi_knee` is characterised by one recursive equation on slices: nothing if the curve is
short or straight or the detector finds nothing; otherwise left slice, knee, re-based right slice. -/
theorem multiKnee_slice_cases (hc : DetOKLarge t2 det) (hn : 1 ≤ n) :
    multiKnee det gate t2 n =
      if n > t2 ∧ gate 0 n = true then
        match det 0 n with
        | some k =>
          (multiKnee det gate t2 (k + 1)).bind fun L =>
            (multiKnee (shiftDet (k + 1) det) (shiftGate (k + 1) gate) t2 (n - (k + 1))).map
              fun R => L ++ [k] ++ R.map (· + (k + 1))
        | none => some []
      else some [] := by
  split
  next h =>
    cases hd : det 0 n with
    | none => rw [multiKnee_eq_rec_large hc hn, multiKneeRec_top hc, if_pos h, hd]
    | some k =>
      obtain ⟨L, R, hL, hR, hLR⟩ := multiKnee_slice_large hc h.1 h.2 k hd
      simp only [hLR, hL, hR, Option.bind_some, Option.map_some]
  next h => rw [multiKnee_eq_rec_large hc hn, multiKneeRec_top hc, if_neg h]

/-! ## Non-vacuity

A concrete detector satisfying the strict contract and a non-trivial gate; the hypotheses of
`multiKnee_slice` hold on it (`n = 12 > t2 = 0`, gate passes, `det 0 12 = some 6`), both slices have
knees of their own, and the three runs fit together as stated.  The right slice's gate differs from
the whole curve's gate at the same coordinates (so un-shifted oracles would give a wrong answer). -/

private def detEx : Nat → Nat → Option Nat := fun l r =>
  if r - l ≥ 3 then some ((r - l) / 2) else none
private def gateEx : Nat → Nat → Bool := fun l r => !(l == 7 && r == 10)

example : DetInterior detEx := by
  intro l r k h
  simp only [detEx] at h
  split at h
  · simp only [Option.some.injEq] at h; omega
  · simp at h
example : (12 : Nat) > 0 ∧ gateEx 0 12 = true ∧ detEx 0 12 = some 6 := by decide +kernel
example : multiKnee detEx gateEx 0 12 = some [1, 2, 3, 5, 6, 9] := by decide +kernel
example : multiKnee detEx gateEx 0 7 = some [1, 2, 3, 5] := by decide +kernel
example : multiKnee (shiftDet 7 detEx) (shiftGate 7 gateEx) 0 (12 - 7) = some [2] := by
  decide +kernel
example : [1, 2, 3, 5] ++ [6] ++ [2].map (· + 7) = [1, 2, 3, 5, 6, 9] := by decide +kernel
/-- without the shift the right slice would be computed wrongly: the un-shifted oracles on a
5-point curve give `[1, 2]`, the slice `points[7:12]` has the single knee `2` -/
example : multiKnee detEx gateEx 0 5 = some [1, 2] := by decide +kernel
/-- an empty case on a slice: `points[7:10]` fails the straightness gate -/
example : gateEx 7 (7 + 3) = false ∧
    multiKnee (shiftDet 7 detEx) (shiftGate 7 gateEx) 0 3 = some [] := by decide +kernel

end Knee
