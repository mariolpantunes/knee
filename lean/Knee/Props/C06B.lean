import Knee.Model.RdpM
import Knee.Props.C06
/-!
# C06B — multi-threshold RDP picks the LARGEST listed threshold that yields enough points

`min_point_rdp` sorts the caller's thresholds in descending order (`t.sort(reverse=True)`, modelled
by `sortDesc`, `Knee/Model/RdpM.lean`) and returns the global-RDP result of the first threshold
whose result has at least `m` points (`minPointRdp`, `Knee/Model/Rdp.lean`; C06 `minpoint_eq`).
Because the sort is a descending permutation of the input, "first in order" is "largest listed".
Oracles: `acceptAt`, `dst`, `key` (any functions).  Exact rationals; no tolerance.
-/
namespace Knee

theorem insertDesc_eq : insertDesc = insertBy (fun a b => b < a) :=
  eq_insertBy (fun _ => rfl) fun _ _ _ => rfl

theorem sortDesc_eq (l : List Rat) : sortDesc l = sortBy (fun a b => b < a) l := by
  induction l with
  | nil => rfl
  | cons x xs ih => rw [sortDesc, ih, insertDesc_eq, sortBy_cons]

/-- **C06B (sort, order).** The sorted threshold list is non-increasing. -/
theorem sortDesc_sorted (l : List Rat) : (sortDesc l).Pairwise (fun a b => b ≤ a) := by
  rw [sortDesc_eq]
  exact sortBy_pairwise l (fun _ _ => Rat.le_of_lt) (fun _ _ => Rat.not_lt.mp)
    fun _ _ _ h1 h2 => Rat.le_trans h2 h1

/-- **C06B (sort, content).** The sorted threshold list is a permutation of the caller's list. -/
theorem sortDesc_perm (l : List Rat) : (sortDesc l).Perm l := by
  rw [sortDesc_eq]
  exact sortBy_perm l

/-- **C06B (largest threshold).** With the caller's thresholds `ts` sorted in descending order as
the code does, `min_point_rdp` returns the global-RDP result of a listed threshold `t` that yields
at least `m` points and that is the LARGEST such listed threshold; if no listed threshold yields
`m` points the result is the fixed-size simplification `rdpFixed … m`. -/
theorem minpoint_largest_threshold (acceptAt : Rat → List Nat → Bool) (dst : Nat → Nat → List Rat)
    (key : Nat → Nat → Nat → Rat × Rat) (n m : Nat) (ts : List Rat) :
    (∃ t ∈ ts, m ≤ (grdp (acceptAt t) dst key n).length ∧
        minPointRdp acceptAt dst key n m (sortDesc ts) = grdp (acceptAt t) dst key n ∧
        ∀ t' ∈ ts, m ≤ (grdp (acceptAt t') dst key n).length → t' ≤ t) ∨
    ((∀ t' ∈ ts, (grdp (acceptAt t') dst key n).length < m) ∧
        minPointRdp acceptAt dst key n m (sortDesc ts) = rdpFixed dst key n m) := by
  have hperm := sortDesc_perm ts
  have hsorted := sortDesc_sorted ts
  rcases minpoint_eq acceptAt dst key n m (sortDesc ts) with
    ⟨pre, t, post, he, hpre, hm, hres⟩ | ⟨hall, hres⟩
  · left
    refine ⟨t, hperm.mem_iff.mp (by rw [he]; simp), hm, hres, ?_⟩
    intro t' ht' hm'
    have hmem : t' ∈ sortDesc ts := hperm.mem_iff.mpr ht'
    rw [he] at hmem hsorted
    rw [List.pairwise_append, List.pairwise_cons] at hsorted
    rcases List.mem_append.mp hmem with h | h
    · have := hpre t' h; omega
    · rcases List.mem_cons.mp h with rfl | h
      · exact Rat.le_refl
      · exact hsorted.2.1.1 t' h
  · right
    exact ⟨fun t' ht' => hall t' (hperm.mem_iff.mpr ht'), hres⟩

/-! Non-vacuity: the sort on a concrete unsorted list with a duplicate, and the selection on a toy
instance (5 points, `toyAccept`) where the first branch holds
with a threshold that is neither the largest nor the first listed. -/
example : sortDesc [1/2, 3, 1/4, 3, 2] = [3, 3, 2, 1/2, 1/4] := by decide +kernel

/-- toy acceptance test: the "global cost" of `red` is `1 / red.length`, accepted when `< t` -/
private def toyAccept (t : Rat) (red : List Nat) : Bool :=
  acceptOf false t (fun r => 1 / ((r.length : Int) : Rat)) red

example :
    let dst : Nat → Nat → List Rat := fun l r => List.replicate (r - l) 0
    let key : Nat → Nat → Nat → Rat × Rat := fun _ _ _ => (0, 0)
    (grdp (toyAccept 1) dst key 5).length = 2 ∧ (grdp (toyAccept (1/3)) dst key 5).length = 4 ∧
    (grdp (toyAccept (1/4)) dst key 5).length = 5 ∧
    minPointRdp toyAccept dst key 5 3 (sortDesc [1/4, 1, 1/3]) = grdp (toyAccept (1/3)) dst key 5 ∧
    minPointRdp toyAccept dst key 5 6 (sortDesc [1/4, 1, 1/3]) = rdpFixed dst key 5 6 := by
  decide +kernel

end Knee
