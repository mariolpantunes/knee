import Knee.Props.C19
import Knee.Props.C19M
/-!
# C19S — sign of MCC on perfect detection; `rmse = sqrt(mse)`

C19 handles `evaluation.mcc` through its numerator and *squared* denominator (`mcc_sq_le_one`,
`mcc_perfect : num² = den²`), which leaves the sign open (`MCC = ±1`).  Here the sign is fixed:
on a perfect detection with at least one knee and at least one true negative the numerator is
*positive*, hence `MCC = +1`.  The square root of the Python (`math.sqrt`) is a parameter
`sq : ℚ → ℚ`; the only property used is that it is exact on squares, `sq (v*v) = v` for `v ≥ 0`.

The two kinds of hypotheses on `sq` (exact on squares; sign / zero / monotone) are never combined in
one theorem, since no function has both (`no_exact_monotone_root`); `exactRoot` has the first kind
with `sq 0 = 0` and non-negativity, `fun v => v` the second.

`mccQ`, `rmseQ`, `rmspeQ`, `exactRoot` are defined here and not in `Model/`: they take the root as a
parameter, and no check runs them against the code.
-/
namespace Knee

/-- `evaluation.mcc`: `n / math.sqrt((tp+fp)*(tp+fn)*(tn+fp)*(tn+fn))`, `n = tp*tn - fp*fn`,
with the square root as a parameter -/
def mccQ (sq : Rat → Rat) (tp fp fn : Nat) (tn : Int) : Rat :=
  ((mccNum tp fp fn tn : Int) : Rat) / sq ((mccDenSq tp fp fn tn : Int) : Rat)

/-- **C19S (MCC = +1 on perfect detection).** If every knee is a true positive and nothing is
missed (`fp = fn = 0`), with at least one knee (`tp > 0`) and at least one true negative
(`tn > 0`): the MCC numerator is *positive*, numerator² = denominator², and for every square root
`sq` that is exact on squares the value computed by `evaluation.mcc` is exactly `+1`. -/
theorem mcc_perfect_sign (sq : Rat → Rat) (hsq : ∀ v : Rat, 0 ≤ v → sq (v * v) = v)
    (tp : Nat) (tn : Int) (htp : 0 < tp) (htn : 0 < tn) :
    0 < mccNum tp 0 0 tn
    ∧ (mccNum tp 0 0 tn) ^ 2 = mccDenSq tp 0 0 tn
    ∧ mccQ sq tp 0 0 tn = 1 := by
  have hpos : 0 < (tp : Int) * tn := Int.mul_pos (Int.natCast_pos.2 htp) htn
  have hposQ : (0 : Rat) < (((tp : Int) * tn : Int) : Rat) := Int.cast_pos.2 hpos
  refine ⟨hpos.trans_eq (mccNum_perfect tp tn).symm, mcc_perfect tp tn, ?_⟩
  unfold mccQ
  rw [mccNum_perfect, mccDenSq_perfect, Int.cast_mul ((tp : Int) * tn) ((tp : Int) * tn),
    hsq _ hposQ.le]
  exact div_self (ne_of_gt hposQ)

/-- the sign alone needs no square root: with `fp = fn = 0` the numerator has the sign of `tn`
(for `tp > 0`); a perfect detection on a curve with *no* true negative gives numerator 0
(the Python then divides by zero) -/
theorem mccNum_perfect_pos_iff (tp : Nat) (tn : Int) (htp : 0 < tp) :
    0 < mccNum tp 0 0 tn ↔ 0 < tn := by
  rw [mccNum_perfect]
  exact mul_pos_iff_of_pos_left (Int.natCast_pos.2 htp)

/-- **C19S (general sign).** Whatever the matrix, where the root of the squared denominator is
positive, `MCC · den = num` with `den = sq denSq > 0`: the MCC has the sign of its numerator. -/
theorem mccQ_mul_den (sq : Rat → Rat) (tp fp fn : Nat) (tn : Int)
    (hpos : 0 < sq ((mccDenSq tp fp fn tn : Int) : Rat)) :
    mccQ sq tp fp fn tn * sq ((mccDenSq tp fp fn tn : Int) : Rat) = ((mccNum tp fp fn tn : Int) : Rat) := by
  unfold mccQ
  exact div_mul_cancel₀ _ (ne_of_gt hpos)

/-- **C19S (confusion matrix of a perfect detection).** If the greedy matching counts every one of
the `nk` knees as a true positive and there are as many expected points as knees, the matrix
is `[[nk, 0], [0, n - nk]]`. -/
theorem cm_perfect (d : Nat → Nat → Rat) (t : Rat) (n nk : Nat)
    (htp : (cm d t n nk nk).1 = nk) :
    cm d t n nk nk = (nk, 0, 0, (n : Int) - nk) := by
  have h1 := cm_tp_fn d t n nk nk
  simp only [cm] at htp h1 ⊢
  rw [htp] at h1 ⊢
  rw [Nat.add_eq_left.1 h1, Nat.sub_self, Nat.add_zero]

/-- **C19S (all three scores are 1 on a perfect detection).** With `tp = |K| = |E| > 0` and
fewer knees than points (so `tn = n - |K| > 0`), accuracy, F1 and MCC computed from
`evaluation.cm` are all exactly 1. -/
theorem cm_perfect_scores (sq : Rat → Rat) (hsq : ∀ v : Rat, 0 ≤ v → sq (v * v) = v)
    (d : Nat → Nat → Rat) (t : Rat) (n nk : Nat) (hk : 0 < nk) (hn : nk < n)
    (htp : (cm d t n nk nk).1 = nk) :
    let r := cm d t n nk nk
    accuracyQ r.1 r.2.1 r.2.2.1 r.2.2.2 = 1 ∧ f1Q r.1 r.2.1 r.2.2.1 = 1
      ∧ mccQ sq r.1 r.2.1 r.2.2.1 r.2.2.2 = 1 ∧ 0 < mccNum r.1 r.2.1 r.2.2.1 r.2.2.2 := by
  rw [cm_perfect d t n nk htp]
  show accuracyQ nk 0 0 ((n : Int) - nk) = 1 ∧ f1Q nk 0 0 = 1
      ∧ mccQ sq nk 0 0 ((n : Int) - nk) = 1 ∧ 0 < mccNum nk 0 0 ((n : Int) - nk)
  have htn : (0 : Int) < (n : Int) - nk := Int.sub_pos_of_lt (Int.ofNat_lt.2 hn)
  obtain ⟨h1, -, h3⟩ := mcc_perfect_sign sq hsq nk ((n : Int) - nk) hk htn
  exact ⟨accuracy_perfect nk _ (Int.add_pos_of_nonneg_of_pos (Int.natCast_nonneg nk) htn),
    f1_perfect nk hk, h3, h1⟩

/-- `evaluation.rmse`: `math.sqrt(mse(points, knees, expected, s))` -/
def rmseQ (sq : Rat → Rat) (s : Strategy) (expected kneePts : List P2) : Rat :=
  sq (mseQ2 s expected kneePts)

/-- `evaluation.rmspe` likewise is the square root of `rmspeSqQ` -/
def rmspeQ (sq : Rat → Rat) (s : Strategy) (expected kneePts : List P2) : Rat :=
  sq (rmspeSqQ s expected kneePts)

/-- **C19S (rmse ≥ 0).** For a square root that is non-negative on non-negative arguments,
`rmse ≥ 0` for every strategy, expected set and knee list. -/
theorem rmseQ_nonneg (sq : Rat → Rat) (hnn : ∀ v : Rat, 0 ≤ v → 0 ≤ sq v)
    (s : Strategy) (E K : List P2) : 0 ≤ rmseQ sq s E K :=
  hnn _ (mseQ2_nonneg s E K)

theorem rmseQ_nonneg_of_mono (sq : Rat → Rat) (h0 : sq 0 = 0)
    (hmono : ∀ u v : Rat, 0 ≤ u → u ≤ v → sq u ≤ sq v)
    (s : Strategy) (E K : List P2) : 0 ≤ rmseQ sq s E K :=
  h0 ▸ hmono 0 _ le_rfl (mseQ2_nonneg s E K)

/-- **C19S (rmse = 0 on perfect detection).** When the knee points are exactly the expected
points, `rmse = 0` for every strategy (`sq 0 = 0`). -/
theorem rmseQ_self (sq : Rat → Rat) (h0 : sq 0 = 0) (s : Strategy) (E : List P2) :
    rmseQ sq s E E = 0 := by
  unfold rmseQ
  rw [mseQ2_self, h0]

/-- **C19S (rmse = 0 when both sides have the same points).** Order and multiplicity do not
matter: if `E` and the knee points have the same members, `rmse = 0` for every strategy. -/
theorem rmseQ_same_points (sq : Rat → Rat) (h0 : sq 0 = 0) (s : Strategy) {E K : List P2}
    (hEK : ∀ p, p ∈ E ↔ p ∈ K) : rmseQ sq s E K = 0 := by
  unfold rmseQ mseQ2
  rcases strategySide_cases s E K with h | h <;> rw [h]
  · rw [mseSides_subset_zero fun p hp => (hEK p).1 hp, h0]
  · rw [mseSides_subset_zero fun p hp => (hEK p).2 hp, h0]

/-- **C19S (`rmse` is the square root of `mse`).** `rmseQ sq = sq ∘ mseQ2` (by definition, as in
the Python), and for a root with `sq 0 = 0` that is non-negative on non-negative arguments:
`rmse ≥ 0`, and `rmse = 0` when `E` is exactly the list of knee points. -/
theorem rmse_is_sqrt_mse (sq : Rat → Rat) (h0 : sq 0 = 0) (hnn : ∀ v : Rat, 0 ≤ v → 0 ≤ sq v)
    (s : Strategy) (E K : List P2) :
    rmseQ sq s E K = sq (mseQ2 s E K) ∧ 0 ≤ rmseQ sq s E K ∧ rmseQ sq s E E = 0 :=
  ⟨rfl, rmseQ_nonneg sq hnn s E K, rmseQ_self sq h0 s E⟩

/-- **C19S (rmse = 0 iff mse = 0 iff containment).** For a root that vanishes only at 0
(`sq 0 = 0`, `sq v > 0` for `v > 0`) and non-empty sides, `rmse = 0` exactly when every point of
the iterated side occurs in the searched side. -/
theorem rmseQ_eq_zero_iff (sq : Rat → Rat) (h0 : sq 0 = 0) (hpos : ∀ v : Rat, 0 < v → 0 < sq v)
    (s : Strategy) {E K : List P2} (hE : E ≠ []) (hK : K ≠ []) :
    rmseQ sq s E K = 0 ↔ ∀ p ∈ (strategySide s E K).1, p ∈ (strategySide s E K).2 := by
  rw [← mseQ2_eq_zero_iff s hE hK]
  unfold rmseQ
  constructor
  · intro h
    rcases lt_or_eq_of_le (mseQ2_nonneg s E K) with hlt | heq
    · have := hpos _ hlt; rw [h] at this; exact absurd this (lt_irrefl 0)
    · exact heq.symm
  · intro h; rw [h, h0]

/-- **C19S (rmse is monotone in mse).** For a monotone root, a smaller `mse` gives a smaller or
equal `rmse` (so ranking detectors by `rmse` or by `mse` is the same). -/
theorem rmseQ_mono (sq : Rat → Rat) (hmono : ∀ u v : Rat, 0 ≤ u → u ≤ v → sq u ≤ sq v)
    (s s' : Strategy) (E K E' K' : List P2) (h : mseQ2 s E K ≤ mseQ2 s' E' K') :
    rmseQ sq s E K ≤ rmseQ sq s' E' K' :=
  hmono _ _ (mseQ2_nonneg s E K) h

/-- `rmspe` likewise: non-negative, and 0 on perfect detection -/
theorem rmspeQ_nonneg_self (sq : Rat → Rat) (h0 : sq 0 = 0) (hnn : ∀ v : Rat, 0 ≤ v → 0 ≤ sq v)
    (s : Strategy) (E K : List P2) : 0 ≤ rmspeQ sq s E K ∧ rmspeQ sq s E E = 0 := by
  refine ⟨hnn _ (rmspeSqQ_nonneg s E K), ?_⟩
  unfold rmspeQ
  rw [rmspeSqQ_self, h0]

/-- an exact square root on the rational squares (0 elsewhere) -/
noncomputable def exactRoot (v : Rat) : Rat :=
  open Classical in if h : ∃ r : Rat, 0 ≤ r ∧ r * r = v then h.choose else 0

/-- **C19S (non-vacuity of the MCC hypothesis).** `exactRoot` is exact on squares, vanishes at 0
and is non-negative: the hypotheses `hsq` of `mcc_perfect_sign`,
`h0`/`hnn` of `rmse_is_sqrt_mse` hold for it simultaneously. -/
theorem exactRoot_spec :
    (∀ v : Rat, 0 ≤ v → exactRoot (v * v) = v) ∧ exactRoot 0 = 0
      ∧ (∀ v : Rat, 0 ≤ v → 0 ≤ exactRoot v) := by
  have hex : ∀ v : Rat, 0 ≤ v → exactRoot (v * v) = v := by
    intro v hv
    have h : ∃ r : Rat, 0 ≤ r ∧ r * r = v * v := ⟨v, hv, rfl⟩
    unfold exactRoot
    rw [dif_pos h]
    exact (mul_self_inj h.choose_spec.1 hv).1 h.choose_spec.2
  refine ⟨hex, by simpa using hex 0 (le_refl 0), ?_⟩
  intro v _
  unfold exactRoot
  split
  · next h => exact h.choose_spec.1
  · exact le_refl 0

/-- 2 is not the square of a rational: it would be the square of a natural number, and `1² < 2 < 2²` -/
theorem no_rat_sq_two (q : Rat) : q * q ≠ 2 := by
  intro h
  have h2 : IsSquare ((2 : ℕ) : ℚ) := ⟨q, by rw [h]; rfl⟩
  obtain ⟨m, hm⟩ := Rat.isSquare_natCast_iff.1 h2
  rcases Nat.lt_or_ge m 2 with h1 | h1
  · have := Nat.mul_self_le_mul_self (Nat.le_of_lt_succ h1); omega
  · have := Nat.mul_self_le_mul_self h1; omega

/-- `q ↦ (2q + 2)/(q + 2)` moves a non-negative `q` strictly towards `√2` without crossing it:
`r - q = (2 - q²)/(q + 2)` and `r² - 2 = 2(q² - 2)/(q + 2)²`. -/
theorem toward_sqrt_two {q : Rat} (hq : 0 ≤ q) :
    ∃ r : Rat, 0 ≤ r ∧ (q * q < 2 → q < r ∧ r * r < 2) ∧ (2 < q * q → r < q ∧ 2 < r * r) := by
  have hp : 0 < q + 2 := add_pos_of_nonneg_of_pos hq two_pos
  have hpp := mul_pos hp hp
  have e1 : (2 * q + 2) / (q + 2) - q = (2 - q * q) / (q + 2) := by
    rw [div_sub' hp.ne']; congr 1; ring
  have e2 : (2 * q + 2) / (q + 2) * ((2 * q + 2) / (q + 2)) - 2
      = 2 * (q * q - 2) / ((q + 2) * (q + 2)) := by
    rw [div_mul_div_comm, div_sub' hpp.ne']; congr 1; ring
  refine ⟨(2 * q + 2) / (q + 2), div_nonneg (add_nonneg (mul_nonneg zero_le_two hq) zero_le_two) hp.le,
    fun h => ⟨sub_pos.1 ?_, sub_neg.1 ?_⟩, fun h => ⟨sub_neg.1 ?_, sub_pos.1 ?_⟩⟩
  · rw [e1]; exact div_pos (sub_pos.2 h) hp
  · rw [e2]; exact div_neg_of_neg_of_pos (mul_neg_of_pos_of_neg two_pos (sub_neg.2 h)) hpp
  · rw [e1]; exact div_neg_of_neg_of_pos (sub_neg.2 h) hp
  · rw [e2]; exact div_pos (mul_pos two_pos (sub_pos.2 h)) hpp

/-- **C19S (why the hypotheses on `sq` are kept apart).** No function `ℚ → ℚ` is both exact on
squares and monotone on the non-negative rationals: its value `q ≥ 0` at 2 has `q² ≠ 2`, and the
rational `r` of `toward_sqrt_two`, strictly between `q` and `√2`, contradicts monotonicity
(`sq (r²) = r`).  So a theorem assuming both about the `math.sqrt` parameter would be vacuous. -/
theorem no_exact_monotone_root :
    ¬ ∃ sq : Rat → Rat, (∀ v : Rat, 0 ≤ v → sq (v * v) = v)
      ∧ (∀ u v : Rat, 0 ≤ u → u ≤ v → sq u ≤ sq v) := by
  rintro ⟨sq, hex, hmono⟩
  have hq : 0 ≤ sq 2 := by
    have := hmono (0 * 0) 2 (mul_self_nonneg 0) (by norm_num)
    rwa [hex 0 le_rfl] at this
  obtain ⟨r, hr, hlo, hhi⟩ := toward_sqrt_two hq
  rcases lt_trichotomy (sq 2 * sq 2) 2 with h | h | h
  · have := hmono (r * r) 2 (mul_self_nonneg r) (hlo h).2.le
    rw [hex r hr] at this
    exact absurd this (not_le.2 (hlo h).1)
  · exact no_rat_sq_two _ h
  · have := hmono 2 (r * r) zero_le_two (hhi h).2.le
    rw [hex r hr] at this
    exact absurd this (not_le.2 (hhi h).1)
/-- the identity satisfies the RMSE-side hypotheses (`sq 0 = 0`, monotone, positive on positives) -/
example : (fun v : Rat => v) 0 = 0 ∧ (∀ u v : Rat, 0 ≤ u → u ≤ v → (fun v : Rat => v) u ≤ (fun v : Rat => v) v)
    ∧ (∀ v : Rat, 0 < v → 0 < (fun v : Rat => v) v) := ⟨rfl, fun _ _ _ h => h, fun _ h => h⟩

/-! Non-vacuity on concrete data.  One-to-one oracle `d e j = |e − j|`, tolerance 0, three knees,
three expected points, ten points: the matrix is `[[3, 0], [0, 7]]`; numerator `21 > 0`,
denominator² `441 = 21²`. -/
example : cm (fun e j => rabs ((e : Rat) - j)) 0 10 3 3 = (3, 0, 0, 7)
    ∧ (cm (fun e j => rabs ((e : Rat) - j)) 0 10 3 3).1 = 3 ∧ 0 < 3 ∧ 3 < 10
    ∧ mccNum 3 0 0 7 = 21 ∧ mccDenSq 3 0 0 7 = 441 := by decide +kernel
/-- the MCC of that matrix is `+1` for the exact root -/
example : mccQ exactRoot 3 0 0 7 = 1 :=
  (mcc_perfect_sign exactRoot exactRoot_spec.1 3 7 (by decide) (by decide)).2.2
/-- all three scores from `cm` on that instance -/
example : let r := cm (fun e j => rabs ((e : Rat) - j)) 0 10 3 3
    accuracyQ r.1 r.2.1 r.2.2.1 r.2.2.2 = 1 ∧ f1Q r.1 r.2.1 r.2.2.1 = 1
      ∧ mccQ exactRoot r.1 r.2.1 r.2.2.1 r.2.2.2 = 1 ∧ 0 < mccNum r.1 r.2.1 r.2.2.1 r.2.2.2 :=
  cm_perfect_scores exactRoot exactRoot_spec.1 _ 0 10 3 (by decide) (by decide) (by decide +kernel)
/-- `tn > 0` is needed for the sign: a perfect detection that uses up all points has numerator 0 -/
example : cm (fun e j => rabs ((e : Rat) - j)) 0 3 3 3 = (3, 0, 0, 0) ∧ mccNum 3 0 0 0 = 0 := by
  decide +kernel
/-- an imperfect detection has a numerator of either sign: `[[1,1],[1,7]]` → 6, `[[0,2],[2,0]]` → −4 -/
example : mccNum 1 1 1 7 = 6 ∧ mccNum 0 2 2 0 = -4 := by decide +kernel
/-- `mse` values whose root is rational: `mse = 1/4` (one point, off by `(1/2, 1/2)`), `rmse = 1/2` -/
example : mseQ2 .expected [(1, 1)] [(3/2, 3/2)] = (1/2) * (1/2) := by decide +kernel
example : rmseQ exactRoot .expected [(1, 1)] [(3/2, 3/2)] = 1/2 := by
  unfold rmseQ
  rw [show mseQ2 .expected [(1, 1)] [(3/2, 3/2)] = (1/2) * (1/2) by decide +kernel]
  exact exactRoot_spec.1 _ (by decide +kernel)
/-- same members in a different order, with a repetition: every strategy gives 0 -/
example : mseQ2 .worst [(2, 2), (3, 3)] [(3, 3), (2, 2), (3, 3)] = 0
    ∧ mseQ2 .knees [(2, 2), (3, 3)] [(3, 3), (2, 2), (3, 3)] = 0 := by decide +kernel

end Knee
