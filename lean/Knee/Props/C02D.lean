import Knee.Lemmas.MultiKnee
import Knee.Props.C09
/-!
# C02D — C02 for real detectors: the contract is only needed on ranges with more than `t2` points

The C02 theorems (`Props/C02.lean`) assume `DetOK det` on *every* range, but a real detector only
satisfies its range contract (`Props/C09.lean`) when the range is long enough — e.g. the curvature
knee `1 + argmax(crit[1:-1])` of a two-point range is `1`, which violates `k + 2 ≤ len`.
`multi_knee` never calls the detector on such a range: the test `len(pt) > t2` comes first.
The file also defines the five bundled detectors as `det` functions (`detCurv` … `detKneedle`) and proves
that the loop depends on the detector only through the large ranges (the three congruence theorems).

Oracles: the criterion arrays and the gate.  Naturals only; no tolerance.
-/
namespace Knee

/-- The detector restricted to the ranges on which `multi_knee` calls it.  It only illustrates the
congruence theorem (`multiKnee_guard`); the `_large` theorems do not go through it. -/
def guard (t2 : Nat) (det : Nat → Nat → Option Nat) : Nat → Nat → Option Nat :=
  fun l r => if r - l > t2 then det l r else none

theorem guard_of_large {t2 : Nat} {det : Nat → Nat → Option Nat} {l r : Nat} (h : r - l > t2) :
    guard t2 det l r = det l r :=
  if_pos h

theorem guard_of_small {t2 : Nat} {det : Nat → Nat → Option Nat} {l r : Nat} (h : r - l ≤ t2) :
    guard t2 det l r = none :=
  if_neg (Nat.not_lt.mpr h)

/-! The five bundled detectors as `det` functions over criterion oracles indexed by the range: the
pure side of the driver's `detM` (`Driver.lean`), which asks for the same arrays over the wire. -/

/-- curvature: `crit l r` = the criterion array of `points[l:r]` -/
def detCurv (crit : Nat → Nat → List Rat) : Nat → Nat → Option Nat :=
  fun l r => some (curvKnee (crit l r))

/-- Menger: `mc l r` = the Menger curvatures of the consecutive triples of `points[l:r]` -/
def detMenger (mc : Nat → Nat → List Rat) : Nat → Nat → Option Nat :=
  fun l r => some (mengerKnee (mc l r))

/-- DFDT: `diffs l r c` = `|gradient[c:] - isodata(gradient[c:])|` on `points[l:r]` -/
def detDfdt (diffs : Nat → Nat → Nat → List Rat) : Nat → Nat → Option Nat :=
  fun l r => some (dfdtKnee (diffs l r) (r - l))

/-- L-method: `errs l r len` = fitting errors of the splits `2 … len-3` on the first `len` points
of `points[l:r]` -/
def detLmethod (errs : Nat → Nat → Nat → List Rat) (mode : Refinement) (limit : Nat) :
    Nat → Nat → Option Nat :=
  fun l r => lmethodKnee (errs l r) mode (r - l) limit

/-- Kneedle: `dd l r` = the difference curve of `points[l:r]` -/
def detKneedle (dd : Nat → Nat → List Rat) : Nat → Nat → Option Nat :=
  fun l r => kneedleKnee (dd l r)

variable {det det' : Nat → Nat → Option Nat} {gate : Nat → Nat → Bool} {t2 n : Nat}

/-- **C02D (congruence, loop).** Two detectors that agree on every range with more than `t2` points
give the same run of the work-stack loop, from every state and with every fuel. -/
theorem multiKneeLoop_congr (h : ∀ l r, r - l > t2 → det l r = det' l r)
    (f : Nat) (st : List (Nat × Nat)) (acc : List Nat) :
    multiKneeLoop det gate t2 f st acc = multiKneeLoop det' gate t2 f st acc := by
  induction f generalizing st acc with
  | zero => rfl
  | succ f ih =>
    match st with
    | [] => rfl
    | (l, r) :: st' =>
      rw [multiKneeLoop_cons, multiKneeLoop_cons]
      split
      next hg =>
        rw [← h l r hg.1]
        cases det l r with
        | none => exact ih _ _
        | some k => exact ih _ _
      · exact ih _ _

/-- **C02D (congruence, top level).** Two detectors that agree on every range with more than `t2`
points give the same `multi_knee` result. -/
theorem multiKnee_congr_large (h : ∀ l r, r - l > t2 → det l r = det' l r) :
    multiKnee det gate t2 n = multiKnee det' gate t2 n := by
  simp only [multiKnee, multiKneeLoop_congr h]

/-- **C02D (congruence, recursion).** Two detectors that agree on every range with more than `t2`
points give the same in-order recursion. -/
theorem multiKneeRec_congr (h : ∀ l r, r - l > t2 → det l r = det' l r) (f l r : Nat) :
    multiKneeRec det gate t2 f l r = multiKneeRec det' gate t2 f l r := by
  induction f generalizing l r with
  | zero => rfl
  | succ f ih =>
    rw [multiKneeRec_succ, multiKneeRec_succ]
    split
    next hg =>
      rw [← h l r hg.1]
      cases det l r with
      | none => rfl
      | some k => simp only [ih]
    · rfl

/-- **C02D (guard is invisible).** `multi_knee` cannot tell `det` from `guard t2 det`.  No
assumption on the detector. -/
theorem multiKnee_guard : multiKnee (guard t2 det) gate t2 n = multiKnee det gate t2 n :=
  multiKnee_congr_large fun _ _ h => guard_of_large h

/-- **C02D (termination).** `multiKnee_total` with the contract only on large ranges. -/
theorem multiKnee_total_large (h : DetOKLarge t2 det) (hn : 1 ≤ n) :
    ∃ ks, multiKnee det gate t2 n = some ks :=
  ⟨_, multiKnee_eq_rec_large h hn⟩

/-- **C02D (step count).** `multiKnee_steps` with the contract only on large ranges. -/
theorem multiKnee_steps_large (h : DetOKLarge t2 det) (hn : 1 ≤ n) :
    ∃ res, ∀ f, 2 * n ≤ f → multiKneeLoop det gate t2 f [(0, n)] [] = some res :=
  (multiKneeLoop_top h hn).imp fun _ h => h.2

/-- **C02D (sorted, in range; recursion).** On every sub-range the recursion returns strictly
increasing indices `x` with `l ≤ x` and `x + 2 ≤ r`. -/
theorem multiKneeRec_sorted_range_large (h : DetOKLarge t2 det) (f l r : Nat) :
    (multiKneeRec det gate t2 f l r).Pairwise (· < ·) ∧
      ∀ x ∈ multiKneeRec det gate t2 f l r, l ≤ x ∧ x + 2 ≤ r :=
  multiKneeRec_sorted_range_of h.detBound f l r

/-- **C02D (interior; recursion).** With a detector that is strictly interior on large ranges no knee
is the first point of its sub-range. -/
theorem multiKneeRec_interior_large (h : DetInteriorLarge t2 det) (f l r : Nat) :
    ∀ x ∈ multiKneeRec det gate t2 f l r, l + 1 ≤ x ∧ x + 2 ≤ r :=
  (multiKneeRec_sorted_range_of h.detBound f l r).2

/-- **C02D (curvature, contract).** With one criterion value per point, the curvature knee of a
range with more than `t2 ≥ 2` points is strictly interior. -/
theorem detCurv_large {crit : Nat → Nat → List Rat} (hc : ∀ l r, (crit l r).length = r - l)
    (ht : 2 ≤ t2) : DetInteriorLarge t2 (detCurv crit) := by
  intro l r k hl hk
  obtain rfl : curvKnee (crit l r) = k := Option.some.inj hk
  have := curvKnee_range (crit := crit l r) ((hc l r).symm ▸ Nat.lt_of_le_of_lt ht hl)
  rwa [hc] at this

/-- **C02D (curvature).** `multi_knee` with the curvature detector terminates with strictly
increasing knees inside `[1, n - 2]`. -/
theorem multiKnee_curv_wf {crit : Nat → Nat → List Rat} (hc : ∀ l r, (crit l r).length = r - l)
    (ht : 2 ≤ t2) (hn : 1 ≤ n) :
    ∃ ks, multiKnee (detCurv crit) gate t2 n = some ks ∧ ks.Pairwise (· < ·) ∧
      ∀ x ∈ ks, 1 ≤ x ∧ x + 2 ≤ n :=
  multiKnee_interior_large (detCurv_large hc ht) hn

/-- **C02D (Menger, contract).** With one curvature per consecutive triple, the Menger knee of a
range with more than `t2 ≥ 2` points is never the last point (it is `0` on a flat range). -/
theorem detMenger_large {mc : Nat → Nat → List Rat} (hc : ∀ l r, (mc l r).length = r - l - 2)
    (ht : 2 ≤ t2) : DetOKLarge t2 (detMenger mc) := by
  intro l r k hl hk
  obtain rfl : mengerKnee (mc l r) = k := Option.some.inj hk
  have := mengerKnee_range (mc l r)
  rw [hc] at this
  exact Nat.add_le_of_le_sub (Nat.le_trans ht (Nat.le_of_lt hl)) this

/-- **C02D (Menger).** `multi_knee` with the Menger detector terminates with strictly increasing
knees inside `[0, n - 2]`. -/
theorem multiKnee_menger_wf {mc : Nat → Nat → List Rat} (hc : ∀ l r, (mc l r).length = r - l - 2)
    (ht : 2 ≤ t2) (hn : 1 ≤ n) :
    ∃ ks, multiKnee (detMenger mc) gate t2 n = some ks ∧ ks.Pairwise (· < ·) ∧
      ∀ x ∈ ks, x + 2 ≤ n :=
  multiKnee_sorted_range_large (detMenger_large hc ht) hn

/-- **C02D (DFDT, contract).** With `len - c` differences per cutoff `c`, the DFDT knee of a range with
more than `t2 ≥ 2` points is strictly interior. -/
theorem detDfdt_large {diffs : Nat → Nat → Nat → List Rat}
    (hd : ∀ l r c, (diffs l r c).length = (r - l) - c) (ht : 2 ≤ t2) :
    DetInteriorLarge t2 (detDfdt diffs) := by
  intro l r k hl hk
  obtain rfl : dfdtKnee (diffs l r) (r - l) = k := Option.some.inj hk
  exact dfdtKnee_range (hd l r) (Nat.lt_of_le_of_lt ht hl)

/-- **C02D (DFDT).** `multi_knee` with the DFDT detector terminates with strictly increasing knees
inside `[1, n - 2]`. -/
theorem multiKnee_dfdt_wf {diffs : Nat → Nat → Nat → List Rat}
    (hd : ∀ l r c, (diffs l r c).length = (r - l) - c) (ht : 2 ≤ t2) (hn : 1 ≤ n) :
    ∃ ks, multiKnee (detDfdt diffs) gate t2 n = some ks ∧ ks.Pairwise (· < ·) ∧
      ∀ x ∈ ks, 1 ≤ x ∧ x + 2 ≤ n :=
  multiKnee_interior_large (detDfdt_large hd ht) hn

/-- **C02D (L-method, contract).** For every refinement option, on a range with more than
`t2 ≥ 4` points the returned split `k` satisfies `2 ≤ k ≤ len - 3`; in particular it is interior. -/
theorem detLmethod_large {errs : Nat → Nat → Nat → List Rat} {limit : Nat}
    (he : ∀ l r len, (errs l r len).length = len - 4) (ht : 4 ≤ t2) (hl : 4 ≤ limit)
    (mode : Refinement) : DetInteriorLarge t2 (detLmethod errs mode limit) := by
  intro l r k hlr hk
  have := lmethodKnee_range (he l r) (n := r - l) (Nat.lt_of_le_of_lt ht hlr) hl mode hk
  exact ⟨Nat.le_of_succ_le this.1, Nat.le_of_succ_le this.2⟩

/-- **C02D (L-method, the detector answers).** On a range with more than `t2 ≥ 4` points the
L-method always returns a knee (its own loop terminates). -/
theorem detLmethod_some {errs : Nat → Nat → Nat → List Rat} {limit : Nat}
    (he : ∀ l r len, (errs l r len).length = len - 4) (ht : 4 ≤ t2) (hl : 4 ≤ limit)
    (mode : Refinement) (l r : Nat) (hlr : r - l > t2) :
    ∃ k, detLmethod errs mode limit l r = some k ∧ 2 ≤ k ∧ k + 3 ≤ r - l :=
  lmethod_refine_total (he l r) (Nat.lt_of_le_of_lt ht hlr) hl mode

/-- **C02D (L-method).** `multi_knee` with the L-method detector terminates with strictly
increasing knees inside `[1, n - 2]`. -/
theorem multiKnee_lmethod_wf {errs : Nat → Nat → Nat → List Rat} {limit : Nat}
    (he : ∀ l r len, (errs l r len).length = len - 4) (ht : 4 ≤ t2) (hl : 4 ≤ limit)
    (mode : Refinement) (hn : 1 ≤ n) :
    ∃ ks, multiKnee (detLmethod errs mode limit) gate t2 n = some ks ∧ ks.Pairwise (· < ·) ∧
      ∀ x ∈ ks, 1 ≤ x ∧ x + 2 ≤ n :=
  multiKnee_interior_large (detLmethod_large he ht hl mode) hn

/-- **C02D (Kneedle, contract).** A strict peak is interior on every range: Kneedle satisfies the
strict contract without any assumption on `t2`. -/
theorem detKneedle_interior {dd : Nat → Nat → List Rat} (hd : ∀ l r, (dd l r).length = r - l) :
    DetInterior (detKneedle dd) := by
  intro l r k hk
  have := kneedleKnee_range hk
  rwa [hd] at this

/-- **C02D (Kneedle).** `multi_knee` with the Kneedle detector terminates with strictly increasing
knees inside `[1, n - 2]`, for every `t2`. -/
theorem multiKnee_kneedle_wf {dd : Nat → Nat → List Rat} (hd : ∀ l r, (dd l r).length = r - l)
    (hn : 1 ≤ n) :
    ∃ ks, multiKnee (detKneedle dd) gate t2 n = some ks ∧ ks.Pairwise (· < ·) ∧
      ∀ x ∈ ks, 1 ≤ x ∧ x + 2 ≤ n :=
  multiKnee_interior_large ((detKneedle_interior hd).detInteriorLarge t2) hn

/-! ## Non-vacuity

Concrete oracles satisfying the length hypotheses; the detectors really are called on several
levels of the recursion; and the gap closed here is real: the bare curvature detector violates
`DetOK` on a two-point range, so `Props/C02.lean` alone does not apply to it. -/

private def critArr : List Rat := [0, 1, 6, 2, 9, 3, 3, 7, 1, 4, 0, 0]

/-- criterion oracle for the examples: the slice `critArr[l:r]` (zero-padded) -/
private def critEx : Nat → Nat → List Rat := fun l r =>
  (List.range (r - l)).map fun i => critArr[l + i]?.getD 0

/-- Menger oracle for the examples: one value per interior point of `points[l:r]` -/
private def mcEx : Nat → Nat → List Rat := fun l r =>
  (List.range (r - l - 2)).map fun i => critArr[l + i + 1]?.getD 0

/-- DFDT oracle for the examples (the C09 example oracle on every range) -/
private def diffsEx2 : Nat → Nat → Nat → List Rat := fun l r c =>
  (List.range (r - l - c)).map fun (i : Nat) => ((((i : Int) - c - 1) ^ 2 : Int) : Rat)

/-- L-method oracle for the examples: best split near the middle of the sub-curve, shifted by `l` -/
private def errsEx2 : Nat → Nat → Nat → List Rat := fun l _ len =>
  (List.range (len - 4)).map fun (i : Nat) =>
    ((((i : Int) + l - ((len - 4) / 2 : Nat)) ^ 2 : Int) : Rat)

example : ∀ l r, (critEx l r).length = r - l := by intro l r; simp [critEx]
example : ∀ l r, (mcEx l r).length = r - l - 2 := by intro l r; simp [mcEx]
example : ∀ l r c, (diffsEx2 l r c).length = (r - l) - c := by intro l r c; simp [diffsEx2]
example : ∀ l r len, (errsEx2 l r len).length = len - 4 := by intro l r len; simp [errsEx2]

/-- the bare detector is *not* `DetOK`: on the two-point range `[0, 2)` it answers `1` -/
example : ¬ DetOK (detCurv critEx) := by
  intro h
  have := h 0 2 1 (by decide +kernel)
  omega

example : multiKnee (detCurv critEx) (fun _ _ => true) 2 12 = some [1, 2, 4, 6, 7, 9] := by
  decide +kernel
example : multiKnee (detCurv critEx) (fun _ _ => true) 3 12 = some [2, 4, 7, 9] := by
  decide +kernel
example : multiKnee (detCurv critEx) (fun l r => r - l != 7) 2 12 = some [1, 2, 4] := by
  decide +kernel
example : multiKnee (guard 2 (detCurv critEx)) (fun _ _ => true) 2 12
    = multiKnee (detCurv critEx) (fun _ _ => true) 2 12 := by decide +kernel
example : multiKnee (detMenger mcEx) (fun _ _ => true) 2 12 = some [1, 2, 4, 6, 7, 9] := by
  decide +kernel
example : multiKnee (detKneedle critEx) (fun _ _ => true) 0 12 = some [2, 4, 7, 9] := by
  decide +kernel
example : multiKnee (detDfdt diffsEx2) (fun _ _ => true) 2 12
    = some [1, 2, 3, 4, 5, 6, 7, 8, 9, 10] := by decide +kernel
example : multiKnee (detLmethod errsEx2 .none 4) (fun _ _ => true) 4 20
      = some [3, 5, 8, 10, 13, 16]
    ∧ multiKnee (detLmethod errsEx2 .original 4) (fun _ _ => true) 4 20
      = some [3, 5, 8, 10, 13, 16]
    ∧ multiKnee (detLmethod errsEx2 .adjusted 4) (fun _ _ => true) 4 20
      = some [2, 5, 8, 11, 14, 17] := by decide +kernel

end Knee
