import Knee.Lemmas.GrahamSeq
/-!
# C18 — monotone-chain hull scans return the convex chain of an x-sorted curve

Model: `Knee.hullLower`, `Knee.hullUpper` (convex_hull.graham_scan_lower / graham_scan_upper),
`Knee.grahamScan` (convex_hull.graham_scan).  Orientation signs are exact in ℚ.
Positions in a chain are read with `H[i]?.getD 0`.
-/
namespace Knee

/-- **C18 (indices).** The lower chain is a strictly increasing index chain from `0` to `n - 1`. -/
theorem hullLower_indices (pt : Nat → P2) (n : Nat) (hn : 2 ≤ n) :
    let H := hullLower pt n
    H.Pairwise (· < ·) ∧ H.head? = some 0 ∧ H.getLast? = some (n - 1) ∧ ∀ k ∈ H, k < n := by
  -- with `n = m + 2` the chain is `(hullScan pt 1 [1, 0] m).reverse` and `n - 1` is `m + 1`, both by computation
  obtain ⟨m, rfl⟩ := Nat.exists_eq_add_of_le' hn
  have h := (hullScan_idx pt idxInv_init m).chain
  exact ⟨h.incr, h.head, h.last, fun k hk => Nat.lt_succ_of_le (h.le k hk)⟩

theorem hullLower_length (pt : Nat → P2) (n : Nat) : 2 ≤ (hullLower pt n).length :=
  (hullScan_idx pt idxInv_init (n - 2)).chain.two_le

/-- **C18 (strict turns).** Consecutive chain edges turn strictly counter-clockwise; no
hypothesis on the curve is needed. -/
theorem hullLower_strict_turns (pt : Nat → P2) (n : Nat) :
    let H := hullLower pt n
    ∀ i, i + 2 < H.length →
      0 < ccw (pt (H[i]?.getD 0)) (pt (H[i + 1]?.getD 0)) (pt (H[i + 2]?.getD 0)) := by
  intro H i hi
  exact (Adj3.iff_getD _).1 (Adj3.reverse _ (hullScan_convex pt (m0 := 1) (st0 := [1, 0]) trivial (n - 2))) i hi

/-- **C18 (support).** On a curve with strictly increasing x, every input point lies on or above
the line through every edge of the lower chain. -/
theorem hullLower_supports (pt : Nat → P2) (n : Nat) (hn : 2 ≤ n)
    (hx : ∀ i j, i < j → j < n → (pt i).1 < (pt j).1) :
    let H := hullLower pt n
    ∀ k, k < n → ∀ i, i + 1 < H.length →
      0 ≤ ccw (pt (H[i]?.getD 0)) (pt (H[i + 1]?.getD 0)) (pt k) := by
  obtain ⟨m, rfl⟩ := Nat.exists_eq_add_of_le' hn
  intro H k hk i hi
  exact (Adj2.iff_getD _).1 (Adj2.reverse _ (hullScan_sup_xsorted hx m (Nat.le_refl _)).sup) i hi k
    (Nat.le_of_lt_succ hk)

/-- The upper chain of `pt` is the lower chain of the curve reflected in the x-axis. -/
theorem hullUpper_eq_reflect (pt : Nat → P2) (n : Nat) :
    hullUpper pt n = hullLower (fun k => ((pt k).1, -(pt k).2)) n :=
  hullUpper_eq_hullLower pt n

/-- **C18 (indices, upper).** The upper chain is a strictly increasing index chain from `0` to `n - 1`. -/
theorem hullUpper_indices (pt : Nat → P2) (n : Nat) (hn : 2 ≤ n) :
    let H := hullUpper pt n
    H.Pairwise (· < ·) ∧ H.head? = some 0 ∧ H.getLast? = some (n - 1) ∧ ∀ k ∈ H, k < n := by
  rw [hullUpper_eq_hullLower]
  exact hullLower_indices (reflY pt) n hn

theorem hullUpper_length (pt : Nat → P2) (n : Nat) : 2 ≤ (hullUpper pt n).length := by
  rw [hullUpper_eq_hullLower]
  exact hullLower_length (reflY pt) n

/-- **C18 (strict turns, upper).** Consecutive edges of the upper chain turn strictly clockwise. -/
theorem hullUpper_strict_turns (pt : Nat → P2) (n : Nat) :
    let H := hullUpper pt n
    ∀ i, i + 2 < H.length →
      ccw (pt (H[i]?.getD 0)) (pt (H[i + 1]?.getD 0)) (pt (H[i + 2]?.getD 0)) < 0 := by
  rw [hullUpper_eq_hullLower]
  intro H i hi
  have := hullLower_strict_turns (reflY pt) n i hi
  rw [ccw_reflY] at this
  exact neg_pos.1 this

/-- **C18 (support, upper).** On a curve with strictly increasing x, every input point lies on or
below the line through every edge of the upper chain. -/
theorem hullUpper_supports (pt : Nat → P2) (n : Nat) (hn : 2 ≤ n)
    (hx : ∀ i j, i < j → j < n → (pt i).1 < (pt j).1) :
    let H := hullUpper pt n
    ∀ k, k < n → ∀ i, i + 1 < H.length →
      ccw (pt (H[i]?.getD 0)) (pt (H[i + 1]?.getD 0)) (pt k) ≤ 0 := by
  rw [hullUpper_eq_hullLower]
  intro H k hk i hi
  have := hullLower_supports (reflY pt) n hn hx k hk i hi
  rw [ccw_reflY] at this
  exact neg_nonneg.1 this

/-- `graham_scan` returns distinct, in-range original indices. -/
theorem grahamScan_nodup_bounded (pts : List P2) :
    (grahamScan pts).Nodup ∧ ∀ i ∈ grahamScan pts, i < pts.length := by
  rw [grahamScan_eq_core]
  cases hp0 : lexMin (ip pts) with
  | none => simp
  | some p0 =>
    -- the output is a sublist of the indices of `p0 :: sorted`, a permutation of `range n`; no hypothesis on
    -- the points is needed for this, unlike for the reading of `grahamScan` as a chain (`GrahamSeqD`)
    have hsub := grahamCore_sublist (p0 :: sortAng p0.1 ((ip pts).filter fun q => q.2 ≠ p0.2))
    have hperm := ((((sortAng_perm p0.1 _).cons p0).trans (ip_perm_rest (lexMin_spec hp0).1).symm).map
      (·.2)).trans (List.Perm.of_eq (map_snd_ip pts))
    exact ⟨(hperm.nodup_iff.2 List.nodup_range).sublist hsub,
      fun i hi => List.mem_range.1 (hperm.mem_iff.1 (hsub.subset hi))⟩

/-- the pop loop of `graham_scan` never empties a non-empty stack -/
theorem popGraham_nonempty (p : P2) (st : List (P2 × Nat)) (h : st ≠ []) : popGraham p st ≠ [] :=
  popGraham_invariant p (· ≠ []) (fun _ _ _ _ _ => by simp) st h

/-- the pop loop only removes elements from the top of the stack -/
theorem popGraham_isSuffix (p : P2) (st : List (P2 × Nat)) : popGraham p st <:+ st :=
  popGraham_suffix p st

/-! Non-vacuity: concrete curves (strictly increasing x) and the chains the model computes. -/

private def curveOf (l : List P2) : Nat → P2 := fun k => l.getD k (0, 0)

/-- zig-zag: the lower chain keeps only the ends, the upper chain drops the dip at index 2 -/
example : hullLower (curveOf [(0, 0), (1, 2), (2, 1), (3, 3), (4, 0)]) 5 = [0, 4] := by decide +kernel
example : hullUpper (curveOf [(0, 0), (1, 2), (2, 1), (3, 3), (4, 0)]) 5 = [0, 1, 3, 4] := by
  decide +kernel
/-- V shape -/
example : hullLower (curveOf [(0, 2), (1, 0), (2, 2)]) 3 = [0, 1, 2] := by decide +kernel
example : hullUpper (curveOf [(0, 2), (1, 0), (2, 2)]) 3 = [0, 2] := by decide +kernel
/-- collinear run: the middle point is dropped by both chains (turns are strict) -/
example : hullLower (curveOf [(0, 0), (1, 1), (2, 2)]) 3 = [0, 2] := by decide +kernel
example : hullUpper (curveOf [(0, 0), (1, 1), (2, 2)]) 3 = [0, 2] := by decide +kernel
/-- the x-monotonicity hypothesis is satisfiable by the zig-zag curve -/
example : ∀ i j, i < j → j < 5 →
    (curveOf [(0, 0), (1, 2), (2, 1), (3, 3), (4, 0)] i).1 <
      (curveOf [(0, 0), (1, 2), (2, 1), (3, 3), (4, 0)] j).1 := by
  intro i j hij hj
  have : ∀ j, j < 5 → ∀ i, i < j →
      (curveOf [(0, 0), (1, 2), (2, 1), (3, 3), (4, 0)] i).1 <
        (curveOf [(0, 0), (1, 2), (2, 1), (3, 3), (4, 0)] j).1 := by decide +kernel
  exact this j hj i hij
/-- square with an interior point: the interior index 4 is discarded -/
example : grahamScan [(0, 0), (2, 0), (2, 2), (0, 2), (1, 1)] = [0, 3, 2, 1] := by decide +kernel

end Knee
