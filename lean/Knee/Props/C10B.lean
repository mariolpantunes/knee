import Knee.Props.C10
/-!
# C10B — the Z-method's threshold sequence reaches every level, so the loop terminates

`zmethod.getPoints` lowers the z threshold by a fixed positive step per round: round `k` uses
`3 - k * dz`.  C10 (`zLoop_total`, `zKnees_total`) proves termination under the hypothesis that the
sequence is eventually at or below the minimal z.  Here that hypothesis is discharged for the exact
sequence (Archimedean property of ℚ), with the explicit round `K = ⌈(3 - minz) / dz⌉` (clamped at 0).
Not covered: the float accumulation `outlier_z -= dz` that the oracle `zthr` of the model stands for; for
it the hypothesis `hK` of `zLoop_total` is a fact about the values produced (and with a NaN
`min_zscore` the test `outlier_z <= min_zscore` is never true).  Not proved here: that two sufficient
fuels give the same list (the statements are `∃ fuel`).
-/
namespace Knee

/-- the round from which the exact threshold sequence is at or below `minz` -/
def reachRound (minz dz : Rat) : Nat := ((3 - minz) / dz).ceil.toNat

/-- **C10B (explicit round).** From round `reachRound minz dz = ⌈(3 - minz) / dz⌉` on, the exact
threshold `3 - k * dz` is at or below `minz`. -/
theorem exact_thresholds_reach_at (minz dz : Rat) (hdz : 0 < dz) :
    ∀ k : Nat, reachRound minz dz ≤ k → 3 - (k : Rat) * dz ≤ minz := by
  intro k hk
  have h1 : (3 - minz) / dz ≤ (k : Rat) := Rat.le_trans Rat.le_ceil
    (by exact_mod_cast Int.le_trans (Int.self_le_toNat _) (Int.ofNat_le.2 hk))
  have h2 := Rat.mul_le_mul_of_nonneg_right h1 (Rat.le_of_lt hdz)
  rw [Rat.div_mul_cancel (Rat.ne_of_gt hdz), Rat.sub_right_le_iff_le_add, Rat.add_comm] at h2
  exact Rat.sub_right_le_iff_le_add.2 h2

/-- **C10B (the thresholds reach any level).** For every positive step `dz` and every level `minz`
the sequence `3 - k * dz` is at or below `minz` from some round on. -/
theorem exact_thresholds_reach (minz dz : Rat) (hdz : 0 < dz) :
    ∃ K : Nat, ∀ k : Nat, K ≤ k → 3 - (k : Rat) * dz ≤ minz :=
  ⟨reachRound minz dz, exact_thresholds_reach_at minz dz hdz⟩

/-- **C10B (termination, explicit fuel).** With the exact threshold sequence the loop returns for
every fuel `≥ ⌈(3 - minz) / dz⌉ + |pts| + 2`. -/
theorem zLoop_total_exact_fuel {w h : Rat} (hw : 0 < w) (minz dz : Rat) (hdz : 0 < dz)
    (pts : List P3) (fuel : Nat) (hfuel : reachRound minz dz + pts.length + 2 ≤ fuel) :
    ∃ outl, zLoop w h (fun k => 3 - (k : Rat) * dz) minz fuel 0 pts [] = some outl :=
  zLoop_total hw (fun k => 3 - (k : Rat) * dz) minz (reachRound minz dz)
    (exact_thresholds_reach_at minz dz hdz) pts fuel hfuel

/-- **C10B (termination).** With the exact threshold sequence `3 - k * dz`, `0 < dz`, and `0 < w`,
the Z-method loop terminates: some fuel makes it return. -/
theorem zLoop_total_exact {w h : Rat} (hw : 0 < w) (minz dz : Rat) (hdz : 0 < dz) (pts : List P3) :
    ∃ fuel outl, zLoop w h (fun k => 3 - (k : Rat) * dz) minz fuel 0 pts [] = some outl :=
  ⟨reachRound minz dz + pts.length + 2,
    zLoop_total_exact_fuel hw minz dz hdz pts _ (Nat.le_refl _)⟩

/-- **C10B (termination of `knees`).** With the exact threshold sequence `knees` returns a result
for some fuel, whatever the curve. -/
theorem zKnees_total_exact {xs ys zs : List Rat} {w h ymin : Rat} (hw : 0 < w) (dz : Rat)
    (hdz : 0 < dz) :
    ∃ fuel ks, zKnees xs ys zs w h ymin (fun k => 3 - (k : Rat) * dz) fuel = some ks :=
  ⟨reachRound (minZ (xs.zip (ys.zip zs))) dz + xs.length + 2,
    zKnees_total hw (fun k => 3 - (k : Rat) * dz) (reachRound (minZ (xs.zip (ys.zip zs))) dz)
      (exact_thresholds_reach_at _ dz hdz) _ (Nat.le_refl _)⟩

/-! Non-vacuity: for the step `dz = 1/2` and minimal z `-1` (the C10 example curve) the explicit
round is `8`, the threshold of round 8 is exactly `-1` and the one of round 7 is still above. -/
example : reachRound (-1) (1/2) = 8 := by decide +kernel
example : (3 : Rat) - ((8 : Nat) : Rat) * (1/2) ≤ -1 ∧ ¬ (3 : Rat) - ((7 : Nat) : Rat) * (1/2) ≤ -1 := by
  decide +kernel

end Knee
