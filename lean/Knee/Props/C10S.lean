import Knee.Props.C10
/-!
# C10S — the Z-method properties for the *returned index list*

`zmethod.knees` returns indices.  `Knee.zKnees` maps every selected x back with `xs.idxOf x`, the
*first* occurrence; Python's `map_index` (`argsort` + `searchsorted`) fixes the index only for distinct
x, and there the two agree.  For a strictly increasing `xs` that index is the position of the selected
point in `xs`, `ys` and `zs` (no length hypothesis: `zip` truncates).  Relations between indices are
written with `[·]?` and an existential, so that validity of the index is part of the statement;
`zKnees_spec` collects them in `getD` form.
-/
namespace Knee

/-- **C10S (index lookup).** For a strictly increasing `xs`, the index `idxOf x` computed by
`knees` for a zipped input point `(x, y, z)` is the position of that point in all three arrays:
`xs[k] = x`, `ys[k] = y`, `zs[k] = z`. -/
theorem zip3_lookup {xs ys zs : List Rat} (hx : xs.Pairwise (· < ·)) {q : P3}
    (hq : q ∈ xs.zip (ys.zip zs)) :
    xs[xs.idxOf q.1]? = some q.1 ∧ ys[xs.idxOf q.1]? = some q.2.1
      ∧ zs[xs.idxOf q.1]? = some q.2.2 := by
  obtain ⟨i, hi, rfl⟩ := List.getElem_of_mem hq
  rw [List.getElem_zip, List.getElem_zip, idxOf_getElem_of_strict hx]
  exact ⟨List.getElem?_eq_getElem _, List.getElem?_eq_getElem _, List.getElem?_eq_getElem _⟩

/-- What `knees` returns: the `idxOf` image of the swept dictionary of `zPoints_some`, every entry
`(x, y)` of which sits at that index in the input arrays. -/
theorem zKnees_some {xs ys zs : List Rat} {w h ymin : Rat} {zthr : Nat → Rat} {fuel : Nat}
    {ks : List Nat} (hx : xs.Pairwise (· < ·))
    (hks : zKnees xs ys zs w h ymin zthr fuel = some ks) :
    ∃ outl, ks = (swept outl).map (fun p => xs.idxOf p.1) ∧ Sep w h outl
      ∧ ∀ p ∈ swept outl,
          xs[xs.idxOf p.1]? = some p.1 ∧ ys[xs.idxOf p.1]? = some p.2
            ∧ ∃ z, zs[xs.idxOf p.1]? = some z := by
  obtain ⟨sel, hsel, rfl⟩ := Option.map_eq_some_iff.1 hks
  obtain ⟨outl, rfl, hfrom, hsep⟩ := zPoints_some hsel
  refine ⟨outl, List.map_map .., hsep hx, fun p hp => ?_⟩
  obtain ⟨q, hq, rfl⟩ := hfrom p (swept_subset outl p hp)
  have := zip3_lookup hx hq
  exact ⟨this.1, this.2.1, q.2.2, this.2.2⟩

/-- **C10S (validity).** For a strictly increasing `xs`, every returned knee index is a valid
index of `xs`, of `ys` and of `zs` (whatever their lengths: `zip` truncates to the shortest). -/
theorem zKnees_valid_all {xs ys zs : List Rat} {w h ymin : Rat} {zthr : Nat → Rat} {fuel : Nat}
    {ks : List Nat} (hx : xs.Pairwise (· < ·))
    (hks : zKnees xs ys zs w h ymin zthr fuel = some ks) :
    ∀ k ∈ ks, k < xs.length ∧ k < ys.length ∧ k < zs.length := by
  obtain ⟨outl, rfl, -, hpt⟩ := zKnees_some hx hks
  intro k hk
  obtain ⟨p, hp, rfl⟩ := List.mem_map.1 hk
  obtain ⟨h1, h2, z, h3⟩ := hpt p hp
  exact ⟨(List.getElem?_eq_some_iff.1 h1).1, (List.getElem?_eq_some_iff.1 h2).1,
    (List.getElem?_eq_some_iff.1 h3).1⟩

/-- **C10S (heights).** For a strictly increasing `xs`, the heights of the returned knees are
non-increasing from left to right: for any two returned indices `i` before `j`, both are valid
indices of `ys` and `ys[j] ≤ ys[i]`.  (This is the effect of the final `min_mr` sweep of
`getPoints`, read off the *returned indices* and the *input* `y` array.) -/
theorem zKnees_heights {xs ys zs : List Rat} {w h ymin : Rat} {zthr : Nat → Rat} {fuel : Nat}
    {ks : List Nat} (hx : xs.Pairwise (· < ·))
    (hks : zKnees xs ys zs w h ymin zthr fuel = some ks) :
    ks.Pairwise (fun i j => ∃ a b, ys[i]? = some a ∧ ys[j]? = some b ∧ b ≤ a) := by
  obtain ⟨outl, rfl, -, hpt⟩ := zKnees_some hx hks
  exact List.pairwise_map.2 ((sweep_heights 1 (sortByX outl)).imp_of_mem fun {p q} hp hq hpq =>
    ⟨p.2, q.2, (hpt p hp).2.1, (hpt q hq).2.1, hpq⟩)

/-- every returned height is at most 1, the start value `outlier_min_mr = 1.0` of the sweep (y is a
miss ratio); this holds whatever the range of `ys`: a point above 1 is deleted by the sweep -/
theorem zKnees_height_le_one {xs ys zs : List Rat} {w h ymin : Rat} {zthr : Nat → Rat}
    {fuel : Nat} {ks : List Nat} (hx : xs.Pairwise (· < ·))
    (hks : zKnees xs ys zs w h ymin zthr fuel = some ks) :
    ∀ k ∈ ks, ∃ a, ys[k]? = some a ∧ a ≤ 1 := by
  obtain ⟨outl, rfl, -, hpt⟩ := zKnees_some hx hks
  intro k hk
  obtain ⟨p, hp, rfl⟩ := List.mem_map.1 hk
  exact ⟨p.2, (hpt p hp).2.1, sweep_le 1 _ p hp⟩

/-- **C10S (separation, left to right).** For a strictly increasing `xs`, any two returned knees
are at least `w` apart in x and at least `h` apart in y, in the direction of the sweep: for
returned indices `i` before `j`, `xs[j] - xs[i] ≥ w` and `ys[i] - ys[j] ≥ h` (with `h ≥ 0` the
latter contains `zKnees_heights`). -/
theorem zKnees_xy_separated {xs ys zs : List Rat} {w h ymin : Rat} {zthr : Nat → Rat}
    {fuel : Nat} {ks : List Nat} (hx : xs.Pairwise (· < ·))
    (hks : zKnees xs ys zs w h ymin zthr fuel = some ks) :
    ks.Pairwise (fun i j => ∃ xi xj yi yj, xs[i]? = some xi ∧ xs[j]? = some xj
      ∧ ys[i]? = some yi ∧ ys[j]? = some yj ∧ w ≤ xj - xi ∧ h ≤ yi - yj) := by
  obtain ⟨outl, rfl, hsep, hpt⟩ := zKnees_some hx hks
  exact List.pairwise_map.2
    (hsep.swept_pairwise.imp_of_mem fun {p q} hp hq hpq =>
      ⟨p.1, q.1, p.2, q.2, (hpt p hp).1, (hpt q hq).1, (hpt p hp).2.1, (hpt q hq).2.1, hpq⟩)

/-- **C10S (separation, any two knees).** For a strictly increasing `xs`, any two *distinct*
returned knee indices `i`, `j` (in either order) satisfy `|xs[i] - xs[j]| ≥ w` and
`|ys[i] - ys[j]| ≥ h`. -/
theorem zKnees_separated_abs {xs ys zs : List Rat} {w h ymin : Rat} {zthr : Nat → Rat}
    {fuel : Nat} {ks : List Nat} (hx : xs.Pairwise (· < ·))
    (hks : zKnees xs ys zs w h ymin zthr fuel = some ks) :
    ∀ i ∈ ks, ∀ j ∈ ks, i ≠ j → ∃ xi xj yi yj, xs[i]? = some xi ∧ xs[j]? = some xj
      ∧ ys[i]? = some yi ∧ ys[j]? = some yj
      ∧ w ≤ rabs (xi - xj) ∧ h ≤ rabs (yi - yj) := by
  obtain ⟨outl, rfl, hsep, hpt⟩ := zKnees_some hx hks
  intro i hi j hj hne
  obtain ⟨p, hp, rfl⟩ := List.mem_map.1 hi
  obtain ⟨q, hq, rfl⟩ := List.mem_map.1 hj
  exact ⟨p.1, q.1, p.2, q.2, (hpt p hp).1, (hpt q hq).1, (hpt p hp).2.1, (hpt q hq).2.1,
    hsep.of_ne (swept_subset _ _ hp) (swept_subset _ _ hq) fun e => hne (e ▸ rfl)⟩

/-- **C10S (summary).** For a strictly increasing `xs` the list returned by `knees` is a strictly
increasing list of valid indices whose heights are non-increasing and whose members are pairwise
`≥ w` apart in x and `≥ h` apart in y. -/
theorem zKnees_spec {xs ys zs : List Rat} {w h ymin : Rat} {zthr : Nat → Rat} {fuel : Nat}
    {ks : List Nat} (hx : xs.Pairwise (· < ·))
    (hks : zKnees xs ys zs w h ymin zthr fuel = some ks) :
    ks.Pairwise (· < ·)
    ∧ (∀ k ∈ ks, k < xs.length ∧ k < ys.length ∧ k < zs.length)
    ∧ ks.Pairwise (fun i j => ys[j]?.getD 0 ≤ ys[i]?.getD 0)
    ∧ ks.Pairwise (fun i j => w ≤ xs[j]?.getD 0 - xs[i]?.getD 0)
    ∧ ks.Pairwise (fun i j => h ≤ ys[i]?.getD 0 - ys[j]?.getD 0) := by
  have hS := zKnees_xy_separated hx hks
  refine ⟨zKnees_strict hx hks, zKnees_valid_all hx hks, (zKnees_heights hx hks).imp ?_,
    hS.imp ?_, hS.imp ?_⟩
  · rintro i j ⟨a, b, ha, hb, hab⟩
    rwa [ha, hb]
  · rintro i j ⟨xi, xj, -, -, hxi, hxj, -, -, hw, -⟩
    rwa [hxi, hxj]
  · rintro i j ⟨-, -, yi, yj, -, -, hyi, hyj, -, hh⟩
    rwa [hyi, hyj]

/-! The model maps an x back with `idxOf` = *first* occurrence (for a repeated x `map_index` leaves
the choice to `argsort`).  With a repeated x the returned index can point at a different point than
the one that was selected, so the heights read off the input `ys` at the returned indices are not the
heights of the selected points.  Concrete instance
(x = 1 occurs twice; the selected point is the second one, `(1, 3/4)`, the returned index 1 is the
first one, `(1, 1/8)`): the heights at the returned indices are `1, 1/8, 1/2, 1/4, 0`. -/
private def dxs : List Rat := [0, 1, 1, 2, 3, 4]
private def dys : List Rat := [1, 1/8, 3/4, 1/2, 1/4, 0]
private def dzs : List Rat := [0, 0, 4, 0, 4, 0]

/-- **C10S (the hypothesis is needed).** Without strictly increasing `xs`, `zKnees_heights` is
false: on this curve with a repeated x the heights at the returned indices go up (`1/8 < 1/2`). -/
theorem zKnees_heights_needs_strict :
    zKnees dxs dys dzs 1 (1/8) 0 (fun k => 3 - (k : Rat) / 2) 18 = some [0, 1, 3, 4, 5]
    ∧ ¬ ([0, 1, 3, 4, 5] : List Nat).Pairwise (fun i j => dys[j]?.getD 0 ≤ dys[i]?.getD 0) := by
  decide +kernel

/-! Non-vacuity (the C10 example curve; `xs` strictly increasing, the one hypothesis): the
returned indices, and the x / y values read off the input arrays at these indices. -/
private def exs : List Rat := [0, 1, 2, 3, 4, 5, 6, 7]
private def eys : List Rat := [1, 7/8, 3/4, 1/4, 1/4, 1/8, 0, 0]
private def ezs : List Rat := [0, 1, 7/2, 0, 1/2, 3, -1, 0]
private def ethr (k : Nat) : Rat := 3 - (k : Rat) / 2

example : exs.Pairwise (· < ·) := by decide +kernel
example : zKnees exs eys ezs 2 (1/4) 0 ethr 18 = some [0, 2, 5] := by decide +kernel
/-- heights at the returned indices `1, 3/4, 1/8`: non-increasing, gaps `≥ 1/4`; x gaps `≥ 2` -/
example : ([0, 2, 5] : List Nat).map (fun k => eys[k]?.getD 0) = [1, 3/4, 1/8]
    ∧ ([0, 2, 5] : List Nat).map (fun k => exs[k]?.getD 0) = [0, 2, 5] := by decide +kernel
example : ([0, 2, 5] : List Nat).Pairwise
    (fun i j => ∃ a b, eys[i]? = some a ∧ eys[j]? = some b ∧ b ≤ a) :=
  zKnees_heights (xs := exs) (ks := [0, 2, 5]) (w := 2) (h := 1/4) (ymin := 0) (zthr := ethr) (fuel := 18)
    (zs := ezs) (by decide +kernel) (by decide +kernel)
example : zKnees exs eys ezs 1 (1/8) 0 ethr 18 = some [0, 1, 2, 4, 5, 7] := by decide +kernel
example : ([0, 1, 2, 4, 5, 7] : List Nat).map (fun k => eys[k]?.getD 0)
    = [1, 7/8, 3/4, 1/4, 1/8, 0] := by decide +kernel

end Knee

