import Knee.Props.C05
import Knee.Props.C01
/-!
# C05S — the greedy clause of C05 with SEGMENT-ONLY scores, and the boundary sizes

`fixed_nested_greedy` (C05) says that the refined segment carries a maximal key *as stored on the work
stack*; the property speaks of an ordering score that depends only on the segment
(`order_triangle/area/segment(points[a:b])`).  Here the key oracle is segment-determined,
`hseg : ∀ l r i, key l r i = (score l (l + i + 1), score (l + i) r)` (splitting `[l, r)` at relative
index `i` gives the children `[l, l+i+1)` and `[l+i, r)`), and the statement is lifted from stored keys
to scores: every stack entry `(k, a, b)` has `k = score a b`, except the first entry `(0, 0, n)`, pushed
with the literal key `0` (`stack = [(0, 0, len(points))]`, see `rinit`) and alone on the stack while it
exists.  Oracle-parametric: EVERY `dst` (one value per point of the range) and EVERY `score`.
-/
namespace Knee

def AllScored (score : Nat → Nat → Rat) (s : RState) : Prop :=
  ∀ e ∈ s.stack, e.1 = score e.2.1 e.2.2

def Scored (score : Nat → Nat → Rat) (n : Nat) (s : RState) : Prop :=
  s.stack = [(0, 0, n)] ∨ AllScored score s

/-- One refinement step (`stack.pop()`, push the children with their scores, `stack.sort`) leaves
only correctly scored entries: the entries below the top were correctly scored (trivially so under the
initial `[(0, 0, n)]`), and the popped entry's own key is never copied. -/
theorem refineStep_allScored {dst : Nat → Nat → List Rat} {key : Nat → Nat → Nat → Rat × Rat}
    {score : Nat → Nat → Rat}
    (hseg : ∀ l r i, key l r i = (score l (l + i + 1), score (l + i) r)) {n : Nat} {s : RState}
    (h : Scored score n s) : AllScored score (refineStep dst key s) := by
  have h : ∀ e ∈ s.stack.dropLast, e.1 = score e.2.1 e.2.2 := by
    rcases h with h | h
    · rw [h]; intro e he; simp at he
    · exact fun e he => h e (List.dropLast_subset _ he)
  cases htop : s.stack.getLast? with
  | none =>
    have hnil := List.getLast?_eq_none_iff.mp htop
    rw [refineStep_of_nil hnil]
    intro e he
    rw [hnil] at he
    exact absurd he List.not_mem_nil
  | some top =>
    obtain ⟨k, l, r⟩ := top
    rw [refineStep_eq htop]
    intro e he
    dsimp only at he
    rw [(sortKeyed_perm _).mem_iff, List.mem_append, List.mem_append] at he
    rcases he with (he | he) | he
    · exact h e he
    · rw [List.mem_singleton.mp (List.mem_ite_nil_right.mp he).2, hseg]
    · rw [List.mem_singleton.mp (List.mem_ite_nil_right.mp he).2, hseg]

theorem rinit_scored (score : Nat → Nat → Rat) (n : Nat) : Scored score n (rinit n) := by
  unfold Scored rinit
  by_cases h : n > 2
  · left; simp [h]
  · right; intro e he; simp [h] at he

/-- **C05S, stack invariant from the initial state.** At every moment of `rdp_fixed(points, ·)` the
work stack is either the initial `[(0, 0, n)]` or each entry `(k, a, b)` has `k = score(points[a:b])`. -/
theorem fixedLoop_scored (dst : Nat → Nat → List Rat) (key : Nat → Nat → Nat → Rat × Rat)
    (score : Nat → Nat → Rat)
    (hseg : ∀ l r i, key l r i = (score l (l + i + 1), score (l + i) r)) (n j : Nat) :
    Scored score n (fixedLoop dst key j (rinit n)) := by
  rw [fixedLoop_eq_stepN]
  induction j with
  | zero => exact rinit_scored score n
  | succ j ih => rw [stepN_succ]; exact Or.inr (refineStep_allScored hseg ih)

/-- **C05S, stack invariant after the first iteration.** As soon as the loop body has run once
(target size `k ≥ 3`), *every* stack entry `(k, a, b)` has `k = score(points[a:b])`: the literal
key `0` of the initial entry never survives. -/
theorem fixedLoop_allScored (dst : Nat → Nat → List Rat) (key : Nat → Nat → Nat → Rat × Rat)
    (score : Nat → Nat → Rat)
    (hseg : ∀ l r i, key l r i = (score l (l + i + 1), score (l + i) r)) (n j : Nat) :
    AllScored score (fixedLoop dst key (j + 1) (rinit n)) := by
  rw [fixedLoop_eq_stepN, stepN_succ, ← fixedLoop_eq_stepN]
  exact refineStep_allScored hseg (fixedLoop_scored dst key score hseg n j)

/-- **C05S, greedy clause with segment-only scores.** Let the ordering key be segment-determined
(`hseg`).  For `2 ≤ k < n`, `rdp_fixed(points, k+1)` is `rdp_fixed(points, k)` plus one new index
`x = l + pickSplit (dst l r)` strictly inside a retained segment `[l, r)` (`l`, `r-1` consecutive
retained indices with at least one point in between; it is the segment on top of the work stack),
and that segment has the maximal SCORE — not just the maximal stored key — among all retained
segments that still have interior points: `score g ≤ score (l, r)` for every
`g ∈ gaps (rdp_fixed(points, k))`.  For `k ≥ 3` the key stored with the refined segment is its
score. -/
theorem fixed_greedy_score (dst : Nat → Nat → List Rat) (key : Nat → Nat → Nat → Rat × Rat)
    (score : Nat → Nat → Rat) (n k : Nat)
    (hn : 2 ≤ n) (hk : 2 ≤ k) (hkn : k < n) (hd : ∀ l r, (dst l r).length = r - l)
    (hseg : ∀ l r i, key l r i = (score l (l + i + 1), score (l + i) r)) :
    ∃ (kk : Rat) (l r : Nat),
      (fixedLoop dst key (k - 2) (rinit n)).stack.getLast? = some (kk, l, r) ∧
      (l, r) ∈ gaps (rdpFixed dst key n k) ∧
      rdpFixed dst key n (k + 1) = insertSorted (l + pickSplit (dst l r)) (rdpFixed dst key n k) ∧
      l + pickSplit (dst l r) ∉ rdpFixed dst key n k ∧
      l < l + pickSplit (dst l r) ∧ l + pickSplit (dst l r) + 1 < r ∧
      (∀ g ∈ gaps (rdpFixed dst key n k), score g.1 g.2 ≤ score l r) ∧
      (3 ≤ k → kk = score l r) := by
  obtain ⟨top, x, htop, hx, hred, hnot, hlt, hgt, hgap, hperm, hmax, _⟩ :=
    fixed_nested_greedy dst key n k hn hk hkn hd
  obtain ⟨kk, l, r⟩ := top
  subst hx
  dsimp only at hred hnot hlt hgt hgap hmax
  have hsc := fixedLoop_scored dst key score hseg n (k - 2)
  have htopmem : (kk, l, r) ∈ (fixedLoop dst key (k - 2) (rinit n)).stack :=
    List.mem_of_getLast? htop
  refine ⟨kk, l, r, htop, hgap, hred, hnot, hlt, hgt, ?_, ?_⟩
  · intro g hg
    have hg' : g ∈ (fixedLoop dst key (k - 2) (rinit n)).stack.map rng := hperm.mem_iff.mpr hg
    obtain ⟨e, he, heg⟩ := List.mem_map.mp hg'
    subst heg
    rcases hsc with h0 | hall
    · -- the initial stack: the only retained segment is the refined one
      rw [h0] at he htopmem
      rw [List.mem_singleton.mp he, ← List.mem_singleton.mp htopmem]
      exact Rat.le_refl
    · have h1 := hall e he
      have h2 := hall _ htopmem
      have h3 := hmax e he
      dsimp only [rng] at h2 ⊢
      rw [← h1, ← h2]
      exact h3
  · intro hk3
    -- `k = j + 3`, so that `k - 2` computes to `j + 1`
    obtain ⟨j, rfl⟩ := Nat.exists_eq_add_of_le' hk3
    exact fixedLoop_allScored dst key score hseg n j _ htopmem

/-- **C05S, greedy clause, stack-free form.** The same statement phrased with the returned index
lists only: some retained segment `[l, r)` of `rdp_fixed(points, k)` with interior points has
maximal score among all such segments, and `rdp_fixed(points, k+1)` adds exactly the split point of
that segment. -/
theorem fixed_greedy_score_lists (dst : Nat → Nat → List Rat) (key : Nat → Nat → Nat → Rat × Rat)
    (score : Nat → Nat → Rat) (n k : Nat)
    (hn : 2 ≤ n) (hk : 2 ≤ k) (hkn : k < n) (hd : ∀ l r, (dst l r).length = r - l)
    (hseg : ∀ l r i, key l r i = (score l (l + i + 1), score (l + i) r)) :
    ∃ l r, (l, r) ∈ gaps (rdpFixed dst key n k) ∧
      (∀ g ∈ gaps (rdpFixed dst key n k), score g.1 g.2 ≤ score l r) ∧
      rdpFixed dst key n (k + 1) = insertSorted (l + pickSplit (dst l r)) (rdpFixed dst key n k) ∧
      l < l + pickSplit (dst l r) ∧ l + pickSplit (dst l r) + 1 < r := by
  obtain ⟨_, l, r, _, hgap, hred, _, hlt, hgt, hmax, _⟩ :=
    fixed_greedy_score dst key score n k hn hk hkn hd hseg
  exact ⟨l, r, hgap, hmax, hred, hlt, hgt⟩

/-- **C05S, sizes 0, 1, 2.** `rdp_fixed(points, k)` with `k ≤ 2` never enters the loop
(`length = k - 2 ≤ 0`) and returns the two end points `[0, n-1]`; no hypothesis on the oracles. -/
theorem fixed_small (dst : Nat → Nat → List Rat) (key : Nat → Nat → Nat → Rat × Rat) (n k : Nat)
    (hk : k ≤ 2) : rdpFixed dst key n k = [0, n - 1] := by
  rw [rdpFixed, Nat.sub_eq_zero_of_le hk]
  rfl

/-- the statement of `fixed_small` under two hypotheses (`hn`, `hd`) that it does not need -/
theorem fixed_small_of_card_wf (dst : Nat → Nat → List Rat) (key : Nat → Nat → Nat → Rat × Rat)
    (n k : Nat) (hn : 2 ≤ n) (hd : ∀ l r, (dst l r).length = r - l) (hk : k ≤ 2) :
    rdpFixed dst key n k = [0, n - 1] :=
  fixed_small dst key n k hk

/-- **C05S, sizes ≥ n.** `rdp_fixed(points, k)` with `k ≥ n` retains every point: the result is
`[0, 1, …, n-1]`, whatever the distance and ordering oracles return. Composed from `fixed_card`
(exactly `n` indices) and `fixed_wf` (strictly increasing from `0` to `n-1`). -/
theorem fixed_all (dst : Nat → Nat → List Rat) (key : Nat → Nat → Nat → Rat × Rat) (n k : Nat)
    (hn : 2 ≤ n) (hd : ∀ l r, (dst l r).length = r - l) (hk : n ≤ k) :
    rdpFixed dst key n k = List.range n := by
  have hc := fixed_card dst key n k hn hd
  obtain ⟨hpw, h0, hl, _⟩ := fixed_wf dst key n k hn hd
  have hlen : (rdpFixed dst key n k).length = n := by
    rw [hc, Nat.max_eq_left (Nat.le_trans hn hk), Nat.min_eq_right hk]
  generalize rdpFixed dst key n k = red at hpw h0 hl hlen
  cases red with
  | nil => exact absurd h0 nofun
  | cons a t =>
    obtain rfl : a = 0 := Option.some.inj h0
    rw [List.length_cons] at hlen
    have := eq_range'_of_pairwise_lt t 0 hpw (by rw [hl, ← hlen, Nat.add_sub_cancel, Nat.zero_add])
    rw [this, hlen, List.range_eq_range']

/-- **C05S, nesting, any two sizes.** `j ≤ k` ⇒ `rdp_fixed(points, j)` is a subsequence of
`rdp_fixed(points, k)` (`hn`, `hd` are not needed), for EVERY `j`, `k` (including sizes below 2 and above `n`): constant
`[0, n-1]` up to size 2, one new index per step for `2 ≤ k < n`, constant `[0, …, n-1]` from `n` on.
The loop body never drops an index (`stepN_sublist`). -/
theorem fixed_nested_le (dst : Nat → Nat → List Rat) (key : Nat → Nat → Nat → Rat × Rat) (n j k : Nat)
    (hn : 2 ≤ n) (hd : ∀ l r, (dst l r).length = r - l) (hjk : j ≤ k) :
    (rdpFixed dst key n j).Sublist (rdpFixed dst key n k) := by
  rw [rdpFixed_eq_stepN, rdpFixed_eq_stepN]
  exact stepN_sublist (Nat.sub_le_sub_right hjk 2) _

/-! ### Non-vacuity
A segment-determined key (score = number of points of the segment, i.e. the `order_segment`
flavour) and a distance oracle with a peak; `hd` and `hseg` hold, the loop really refines, and
the greedy conclusion can be read off: at `k = 3` the retained segments with interior points are
`[0,3)` (score 3) and `[2,8)` (score 6); the next split is inside `[2,8)`. -/
private def dstE : Nat → Nat → List Rat := fun l r =>
  (List.range (r - l)).map fun i => if i = 2 then 1 else 0
private def scoreE : Nat → Nat → Rat := fun a b => ((b - a : Nat) : Rat)
private def keyE : Nat → Nat → Nat → Rat × Rat := fun l r i => (scoreE l (l + i + 1), scoreE (l + i) r)

example : ∀ l r, (dstE l r).length = r - l := by intro l r; simp [dstE]
example : ∀ l r i, keyE l r i = (scoreE l (l + i + 1), scoreE (l + i) r) := fun _ _ _ => rfl
example : rdpFixed dstE keyE 8 3 = [0, 2, 7] ∧ gaps (rdpFixed dstE keyE 8 3) = [(0, 3), (2, 8)] ∧
    rdpFixed dstE keyE 8 4 = [0, 2, 4, 7] ∧ rdpFixed dstE keyE 8 5 = [0, 2, 4, 6, 7] ∧
    (fixedLoop dstE keyE 1 (rinit 8)).stack = [(3, 0, 3), (6, 2, 8)] ∧
    (fixedLoop dstE keyE 2 (rinit 8)).stack = [(3, 0, 3), (3, 2, 5), (4, 4, 8)] ∧
    rdpFixed dstE keyE 8 1 = [0, 7] ∧ rdpFixed dstE keyE 8 11 = List.range 8 := by
  decide +kernel

end Knee
