import Knee.Props.C16
import Knee.Model.LMethodQ
/-!
# C16S — best-fit R² equals the squared Pearson correlation

The least-squares line `olsQ` (what `np.polyfit(x, y, 1)` returns, in the `(b, m)` order of `fitQ`): its classic
R² is `corrSqQ x y`, it minimises the residual sum of squares among all lines, and its RSS is the `olsRss` of
`Model/LMethodQ.lean`.  Everything rests on one expansion, `rss_line_expand`, and the normal equation `ols_slope_mul`.
-/
namespace Knee

/-- `Σ (x_i − x̄)²`: definitionally `tssQ`; a hypothesis about one is accepted for the other -/
def sxxQ (x : List Rat) : Rat := (x.map fun a => (a - meanQ x) * (a - meanQ x)).sum

/-- `Σ (x_i − x̄)(y_i − ȳ)` -/
def sxyQ (x y : List Rat) : Rat :=
  (List.zipWith (fun a b => (a - meanQ x) * (b - meanQ y)) x y).sum

/-- the least-squares line as `(intercept, slope)` = `(ȳ − m·x̄, m)` with `m = Sxy / Sxx`
(same component order as `fitQ`, the order `lineQ` expects) -/
def olsQ (x y : List Rat) : Rat × Rat :=
  let m := sxyQ x y / sxxQ x
  (meanQ y - m * meanQ x, m)

theorem tssQ_eq_sxxQ (y : List Rat) : tssQ y = sxxQ y := rfl

theorem corrSqQ_eq (x y : List Rat) :
    corrSqQ x y = sxyQ x y * sxyQ x y / (sxxQ x * sxxQ y) := rfl

/-- so the slope `0/0 = 0` that `olsQ` takes for constant `x` is harmless -/
theorem sxy_zero_of_sxx_zero (x y : List Rat) (h : sxxQ x = 0) : sxyQ x y = 0 := by
  have h1 : sxyQ x y * sxyQ x y ≤ sxxQ x * sxxQ y := cauchy_schwarz_centered _ _ x y
  rw [h, zero_mul] at h1
  exact mul_self_eq_zero.mp (le_antisymm h1 (mul_self_nonneg _))

/-- the normal equation for the slope of `olsQ`; it also holds for constant `x`, where the slope is
`0/0 = 0` and `Sxy = 0` -/
theorem ols_slope_mul (x y : List Rat) : (olsQ x y).2 * sxxQ x = sxyQ x y := by
  by_cases hxx : sxxQ x = 0
  · rw [hxx, mul_zero, sxy_zero_of_sxx_zero x y hxx]
  · exact div_mul_cancel₀ _ hxx

/-- the RSS of an arbitrary line `v ↦ v·m + c`, expanded around arbitrary centres `mx`, `my`
(`d = my − m·mx − c` is the line's miss of the centre).  The centres are variables because the means of a
list change under `cons`: the induction cannot run at `meanQ`.  The left side has the shape in which
`List.zipWith_map_right` leaves `rssQ y (lineQ x (c, m))`. -/
theorem rss_line_expand (mx my m c : Rat) (x y : List Rat) (h : x.length = y.length) :
    (List.zipWith (fun a b => (a - (b * m + c)) * (a - (b * m + c))) y x).sum
      = (y.map fun b => (b - my) * (b - my)).sum
        - 2 * m * (List.zipWith (fun a b => (a - mx) * (b - my)) x y).sum
        + m * m * (x.map fun a => (a - mx) * (a - mx)).sum
        + 2 * (my - m * mx - c) * ((y.map fun b => b - my).sum - m * (x.map fun a => a - mx).sum)
        + (x.length : Rat) * ((my - m * mx - c) * (my - m * mx - c)) := by
  induction x generalizing y with
  | nil =>
    obtain rfl := List.length_eq_zero_iff.1 h.symm
    simp
  | cons a x ih =>
    obtain ⟨b, y, rfl⟩ := List.exists_cons_of_length_eq_add_one h.symm
    simp only [List.zipWith_cons_cons, List.map_cons, List.sum_cons, List.length_cons, Nat.cast_succ,
      ih y (Nat.succ.inj h)]
    ring

theorem rss_line_eq (x y : List Rat) (hlen : x.length = y.length) (b m : Rat) :
    rssQ y (lineQ x (b, m))
      = sxxQ y - 2 * m * sxyQ x y + m * m * sxxQ x
        + (x.length : Rat) * ((meanQ y - m * meanQ x - b) * (meanQ y - m * meanQ x - b)) := by
  rw [rssQ_lineQ, rss_line_expand (meanQ x) (meanQ y) m b x y hlen, sum_centered, sum_centered]
  unfold sxxQ sxyQ
  ring

theorem rss_ols_eq (x y : List Rat) (hlen : x.length = y.length) :
    rssQ y (lineQ x (olsQ x y)) = sxxQ y - (olsQ x y).2 * sxyQ x y := by
  rw [show olsQ x y = (meanQ y - (olsQ x y).2 * meanQ x, (olsQ x y).2) from rfl,
    rss_line_eq x y hlen, ← ols_slope_mul x y]
  ring

/-- the RSS of any line `(b, m)` is the least-squares RSS, plus what a wrong slope costs, plus what
missing the centroid `(x̄, ȳ)` costs -/
theorem rss_line_eq_ols_add (x y : List Rat) (hlen : x.length = y.length) (b m : Rat) :
    rssQ y (lineQ x (b, m))
      = rssQ y (lineQ x (olsQ x y))
        + sxxQ x * ((m - (olsQ x y).2) * (m - (olsQ x y).2))
        + (x.length : Rat) * ((meanQ y - m * meanQ x - b) * (meanQ y - m * meanQ x - b)) := by
  rw [rss_ols_eq x y hlen, rss_line_eq x y hlen, ← ols_slope_mul x y]
  ring

/-- **C16S — residual of the best fit.** With `Sxx ≠ 0` the least-squares line leaves
`RSS = Syy − Sxy² / Sxx` (the value `np.polyfit(..., full=True)` reports as residual).  The model does not need
`hxx`: for `Sxx = 0` both sides are `Syy` (`0/0 = 0`). -/
theorem rss_ols_formula (x y : List Rat) (hlen : x.length = y.length) (hxx : sxxQ x ≠ 0) :
    rssQ y (lineQ x (olsQ x y)) = sxxQ y - sxyQ x y * sxyQ x y / sxxQ x := by
  rw [rss_ols_eq x y hlen, mul_div_right_comm]
  rfl

/-- **C16S — best-fit R² = r².** For equal-length samples with non-constant `y` (`Syy ≠ 0`),
`metrics.r2(y, m·x + b)` for the least-squares line `(b, m)` is exactly the squared Pearson
correlation `corrSqQ x y` — what `linear_fit.r2` returns in its last branch (`np.corrcoef(x, y)[0, 1]**2`, for
more than two points and neither `x` nor `y` constant; in its other branches it returns `1.0`).
No `n ≥ 2` is assumed (it follows from `Syy ≠ 0`), and `Sxx ≠ 0` is NOT needed: for constant `x` both sides
are `0` in the model (slope `0/0 = 0`, RSS = Syy, and `Sxy²/(0·Syy) = 0`), where the code returns `1.0`. -/
theorem r2_ols_eq_corrSq (x y : List Rat) (hlen : x.length = y.length) (hyy : sxxQ y ≠ 0) :
    r2Q y (lineQ x (olsQ x y)) = corrSqQ x y := by
  rw [r2Q_of_ne hyy, tssQ_eq_sxxQ, rss_ols_eq x y hlen, sub_div, div_self hyy,
    sub_sub_cancel, corrSqQ_eq]
  unfold olsQ
  rw [div_mul_eq_mul_div, div_div]

/-- the same under the hypotheses of the textbook statement (`n ≥ 2`, `Sxx ≠ 0`, `Syy ≠ 0`) -/
theorem r2_ols_eq_corrSq' (x y : List Rat) (n : Nat) (_hn : 2 ≤ n) (hx : x.length = n)
    (hy : y.length = n) (_hxx : sxxQ x ≠ 0) (hyy : sxxQ y ≠ 0) :
    r2Q y (lineQ x (olsQ x y)) = corrSqQ x y :=
  r2_ols_eq_corrSq x y (hx.trans hy.symm) hyy

/-- **C16S — least squares.** The line `olsQ x y` minimises the residual sum of squares among
ALL lines `(b, m)`, for any equal-length samples (constant `x` included: then every slope is
equally good and `olsQ` picks slope 0 through the mean). -/
theorem ols_minimises_rss (x y : List Rat) (hlen : x.length = y.length) (b m : Rat) :
    rssQ y (lineQ x (olsQ x y)) ≤ rssQ y (lineQ x (b, m)) := by
  rw [rss_line_eq_ols_add x y hlen b m, add_assoc]
  exact le_add_of_nonneg_right (add_nonneg
    (mul_nonneg (tss_nonneg x) (mul_self_nonneg _))
    (mul_nonneg (Nat.cast_nonneg _) (mul_self_nonneg _)))

/-- the RSS of `olsQ` is the `olsRss` of `Model/LMethodQ.lean` (the L-method's best-fit residual):
the two models of `np.polyfit` agree (no length hypothesis needed) -/
theorem rss_ols_eq_olsRss (x y : List Rat) : rssQ y (lineQ x (olsQ x y)) = olsRss x y := by
  rw [rssQ_lineQ, List.zipWith_comm]
  unfold olsRss
  refine congrArg List.sum (congrArg (List.zipWith · x y) (funext fun a => funext fun v => ?_))
  unfold olsQ sxyQ sxxQ
  ring

/-- hence the best-fit R² of the L-method's fit is also `r²` -/
theorem r2_olsRss_eq_corrSq (x y : List Rat) (hlen : x.length = y.length) (hyy : sxxQ y ≠ 0) :
    1 - olsRss x y / tssQ y = corrSqQ x y := by
  rw [← rss_ols_eq_olsRss, ← r2_ols_eq_corrSq x y hlen hyy, r2Q_of_ne hyy]

/- hypotheses hold on a non-trivial (non-collinear, non-uniform) sample -/
example : ([0, 1, 3, 4] : List Rat).length = ([1, 5, 7, 6] : List Rat).length
    ∧ sxxQ [0, 1, 3, 4] = 10 ∧ sxxQ [1, 5, 7, 6] = 83 / 4 ∧ sxyQ [0, 1, 3, 4] [1, 5, 7, 6] = 12 := by
  decide +kernel
/- the least-squares line `(b, m) = (47/20, 6/5)` and both sides of `r2_ols_eq_corrSq` -/
example : olsQ [0, 1, 3, 4] [1, 5, 7, 6] = (47 / 20, 6 / 5)
    ∧ r2Q [1, 5, 7, 6] (lineQ [0, 1, 3, 4] (olsQ [0, 1, 3, 4] [1, 5, 7, 6])) = 288 / 415
    ∧ corrSqQ [0, 1, 3, 4] [1, 5, 7, 6] = 288 / 415 := by decide +kernel
/- the end-point line of `fitQ` is a different, worse line: larger RSS, smaller R² -/
example : fitQ [0, 1, 3, 4] [1, 5, 7, 6] = (1, 5 / 4)
    ∧ rssQ [1, 5, 7, 6] (lineQ [0, 1, 3, 4] (olsQ [0, 1, 3, 4] [1, 5, 7, 6])) = 127 / 20
    ∧ rssQ [1, 5, 7, 6] (lineQ [0, 1, 3, 4] (fitQ [0, 1, 3, 4] [1, 5, 7, 6])) = 101 / 8
    ∧ olsRss [0, 1, 3, 4] [1, 5, 7, 6] = 127 / 20 := by decide +kernel
/- `Syy ≠ 0` is not idle: for constant `y` the fit is perfect (`R² = 1`) but `corrSqQ` is `0/0 = 0` -/
example : r2Q [3, 3, 3] (lineQ [0, 1, 2] (olsQ [0, 1, 2] [3, 3, 3])) = 1
    ∧ corrSqQ [0, 1, 2] [3, 3, 3] = 0 := by decide +kernel
/- `Sxx ≠ 0` IS idle: constant `x`, both sides are 0 -/
example : r2Q [1, 5, 3] (lineQ [2, 2, 2] (olsQ [2, 2, 2] [1, 5, 3])) = 0
    ∧ corrSqQ [2, 2, 2] [1, 5, 3] = 0 := by decide +kernel
/- equal lengths are not idle: with a longer `x` the means are taken over different index sets -/
example : r2Q [1, 5, 7] (lineQ [0, 1, 3, 10] (olsQ [0, 1, 3, 10] [1, 5, 7]))
    ≠ corrSqQ [0, 1, 3, 10] [1, 5, 7] := by decide +kernel

end Knee
