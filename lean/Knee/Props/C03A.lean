import Knee.Props.C03D
/-!
# C03 (part A) — the exact criteria of the detectors at every point of an exact two-slope elbow

Model: `Knee/Model/Elbow.lean` (Layer N criteria over ℚ: `curvCritSq`, `mengerAt`, `lmErrRss`).
`lmErrRss` is the `point_fit` × `rss` instance of the general error `lmErrGen` (`Model/LMethodQ.lean`),
for which `Props/C03D.lean` proves the L-method statements; the two here are its instances.  The sample
elbow is defined here, so the runs of the general L-method model on it stand at the end of this file.
-/
namespace Knee

variable {x y : Nat → Rat} {n c : Nat} {s1 s2 : Rat}

/-- the three-point second derivative at the corner, in closed form -/
theorem csd_elbow_corner (h : IsElbow x y n c s1 s2) :
    csdQ x y n c = 2 * (s2 - s1) / (x (c + 1) - x (c - 1)) := by
  obtain ⟨e1, e3⟩ := h.triple_corner
  obtain ⟨n12, n13, n23⟩ := h.triple_corner_ne
  rw [csdQ_eq, h.stencil_corner]
  exact secondD_slopes n12 n13 n23 e1 e3

/-- the squared curvature criterion vanishes at every point but the corner … -/
theorem curvCrit_elbow_off (h : IsElbow x y n c s1 s2) (i : Nat) (hi : i < n) (hic : i ≠ c) :
    curvCritSq x y n i = 0 := by
  unfold curvCritSq
  simp only [h.csd_off i hi hic, mul_zero, zero_div]

/-- … where it is strictly positive -/
theorem curvCrit_elbow_corner (h : IsElbow x y n c s1 s2) : 0 < curvCritSq x y n c := by
  obtain ⟨-, n13, -⟩ := h.triple_corner_ne
  have hg : csdQ x y n c ≠ 0 := by
    rw [csd_elbow_corner h]
    exact div_ne_zero (mul_ne_zero two_ne_zero (sub_ne_zero.mpr h.slopes.symm))
      (sub_ne_zero.mpr n13.symm)
  have hd : 0 < 1 + cfdQ x y n c * cfdQ x y n c :=
    add_pos_of_pos_of_nonneg one_pos (mul_self_nonneg _)
  unfold curvCritSq
  exact div_pos (mul_self_pos.mpr hg) (mul_pos (mul_pos hd hd) hd)

/-- the three-point first derivative is the arm's slope on either side of the corner -/
theorem cfd_elbow (h : IsElbow x y n c s1 s2) (i : Nat) (hn : i < n) :
    (i < c → cfdQ x y n i = s1) ∧ (c < i → cfdQ x y n i = s2) :=
  ⟨fun hi => by rw [h.cfd_off i hn (by omega), if_pos hi],
    fun hi => by rw [h.cfd_off i hn (by omega), if_neg (by omega)]⟩

/-- the squared Menger curvature vanishes at every interior point but the corner … (`hi1` is not
needed: at `i = 0` the triple repeats its first point) -/
theorem menger_elbow_off (h : IsElbow x y n c s1 s2) (i : Nat) (hi1 : 1 ≤ i) (hin : i + 1 < n)
    (hic : i ≠ c) : mengerAt x y i = 0 := by
  obtain ⟨e1, e3⟩ := h.triple_off hin hic
  apply mengerSq_collinear
  rw [cross_slopes e1 e3, sub_self, mul_zero]

/-- … where it is strictly positive -/
theorem menger_elbow_corner (h : IsElbow x y n c s1 s2) : 0 < mengerAt x y c := by
  obtain ⟨e1, e3⟩ := h.triple_corner
  obtain ⟨n12, -, n23⟩ := h.triple_corner_ne
  exact mengerSq_slopes_pos n12 n23 h.slopes e1 e3

/-- the L-method error (end-point fit, RSS cost) of the split at the corner is `0` … -/
theorem lmErr_elbow_corner (h : IsElbow x y n c s1 s2) : lmErrRss x y n c = 0 := by
  rw [lmErrRss_eq_gen]
  exact lmErrGen_elbow_corner h rfl false false

/-- … and strictly positive at every other admissible split `2 ≤ i ≤ n - 3` -/
theorem lmErr_elbow_off (h : IsElbow x y n c s1 s2) (i : Nat) (hi2 : 2 ≤ i) (hin : i + 3 ≤ n)
    (hic : i ≠ c) : 0 < lmErrRss x y n i := by
  rw [lmErrRss_eq_gen]
  exact lmErrGen_elbow_off h rfl (fun _ hv => hv) false false i hi2 hin hic

/-- non-vacuity: ordinates of a sample elbow on `x i = i` (9 points, corner 4, slopes −2 and −1/8):
`10, 8, 6, 4, 2` then `2 − (i−4)/8` -/
def sampleElbowY (i : Nat) : Rat := if i ≤ 4 then 10 - 2 * (i : Rat) else 2 - ((i : Rat) - 4) / 8

theorem sampleElbow_isElbow : IsElbow (fun i => (i : Rat)) sampleElbowY 9 4 (-2) (-1 / 8) where
  xinc := by
    intro i j hij _
    exact_mod_cast hij
  left := by
    intro i hi
    rw [sampleElbowY, sampleElbowY, if_pos hi, if_pos (Nat.zero_le 4)]
    push_cast
    ring
  right := by
    intro i hi _
    rw [sampleElbowY, sampleElbowY, if_pos (Nat.le_refl 4)]
    split
    · obtain rfl : i = 4 := by omega
      ring
    · push_cast
      ring
  slopes := by norm_num
  arm1 := by omega
  arm2 := by omega

example : curvKneeQ (fun i => (i : Rat)) sampleElbowY 9 = 4 := by decide +kernel
example : mengerKneeQ (fun i => (i : Rat)) sampleElbowY 9 = 4 := by decide +kernel
example : lmethodKneeQ (fun i => (i : Rat)) sampleElbowY .none 9 4 = some 4 := by decide +kernel
/-- the criteria are non-trivial on the sample: zero off the corner, positive at it -/
example : (List.range 9).map (curvCritSq (fun i => (i : Rat)) sampleElbowY 9)
    = [0, 0, 0, 0, 2359296 / 6475145, 0, 0, 0, 0] := by decide +kernel
example : (lmErrsRss (fun i => (i : Rat)) sampleElbowY 9).map (fun e => decide (e = 0))
    = [false, false, true, false, false] := by decide +kernel

/-! the L-method of `Props/C03D.lean` (every Fit × Cost × Refinement) on the sample -/

/-- the model computes the corner of the sample (point fit: all refinement options) … -/
example : lmethodKneeGen (fun v => v) false (fun i => (i : Rat)) sampleElbowY .none 9 4 = some 4 := by
  decide +kernel
example : lmethodKneeGen (fun v => v) false (fun i => (i : Rat)) sampleElbowY .original 9 4 = some 4 := by
  decide +kernel
example : lmethodKneeGen (fun v => v) false (fun i => (i : Rat)) sampleElbowY .adjusted 9 4 = some 4 := by
  decide +kernel
/-- … and with the least-squares fit -/
example : lmethodKneeGen (fun v => v) true (fun i => (i : Rat)) sampleElbowY .none 9 4 = some 4 := by
  decide +kernel
example : lmethodKneeGen (fun v => v) true (fun i => (i : Rat)) sampleElbowY .original 9 4 = some 4 := by
  decide +kernel
example : lmethodKneeGen (fun v => v) true (fun i => (i : Rat)) sampleElbowY .adjusted 9 4 = some 4 := by
  decide +kernel
/-- the theorems agree with the computation -/
example (bestfit : Bool) (mode : Refinement) (limit : Nat) :
    lmethodKneeGen (fun v => v) bestfit (fun i => (i : Rat)) sampleElbowY mode 9 limit = some 4 :=
  lmethod_elbow_gen sampleElbow_isElbow id_sq_hyps.1 id_sq_hyps.2 bestfit mode limit
/-- the errors are non-trivial on the sample: zero at the corner only, on the full curve and on
the shortest admissible prefix (`len = c + 3 = 7`, which is not itself an elbow) -/
example : lmErrsGen (fun v => v) true true (fun i => (i : Rat)) sampleElbowY 9
    = [10125 / 3584, 9375 / 14336, 0, 9375 / 14336, 10125 / 3584] := by decide +kernel
example : lmErrsGen (fun v => v) true true (fun i => (i : Rat)) sampleElbowY 7
    = [35 / 32, 135 / 512, 0] := by decide +kernel
example : (lmErrsGen (fun v => v) false false (fun i => (i : Rat)) sampleElbowY 9).map
    (fun e => decide (e = 0)) = [false, false, true, false, false] := by decide +kernel

end Knee
