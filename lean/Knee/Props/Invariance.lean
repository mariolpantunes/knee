import Knee.Lemmas.Invariance
import Knee.Lemmas.Hull
import Knee.Model.EvenPoints
import Knee.Lemmas.Cluster
import Knee.Lemmas.ListMinMax
import Knee.Lemmas.Metrics
import Knee.Lemmas.GetD
import Knee.Props.C17
/-!
# Invariance — the exact (Layer N) models do not depend on absolute magnitude

The harness feeds every check with curves at ~1e-9 scale, at ~1e9 scale and with large common
offsets.  That is sound because the *definitions* of the numeric primitives are homogeneous and
translation invariant: a change of units or of origin changes the exact value by a known power of the
scale, or not at all; so a dependence of the float result on absolute magnitude can only come from
absolute constants in the code (an `eps`, a hard-coded threshold) or from rounding.  This file proves
the premise, model by model, over ℚ and for *all* inputs (degenerate ones included: division by zero
is `0` on both sides); where a model as written is not invariant, the negation is proved on a
concrete instance (`*_not_…`) next to the invariance that does hold.
-/
namespace Knee

theorem perpSq_similar (s : Rat) (v p a b : P2) :
    perpSq (axMap s s v p) (axMap s s v a) (axMap s s v b) = s ^ 2 * perpSq p a b := by
  simp only [perpSq, sub_similar, cross_smul_smul, normSq_smul]
  rw [mul_mul_mul_comm, mul_assoc, mul_mul_div_mul]

/-- `linear_fit.perpendicular_distance_points` does not depend on the origin: moving the point and
the line by the same vector leaves the (squared) distance unchanged.  Generators may add any common
offset; a float disagreement is then pure cancellation error. -/
theorem perpSq_translate (p a b v : P2) : perpSq (p + v) (a + v) (b + v) = perpSq p a b := by
  simpa only [axMap_one, one_pow, one_mul] using perpSq_similar 1 v p a b

/-- `perpendicular_distance_points` is homogeneous of degree 1 (squared: degree 2) in a common
unit, for every `s` (also `s ≤ 0`, and also for `a = b`).  RDP-style comparisons
`distance > t·scale` therefore are unit-free as long as the threshold scales along. -/
theorem perpSq_scale (s : Rat) (p a b : P2) :
    perpSq (s • p) (s • a) (s • b) = s ^ 2 * perpSq p a b := by
  simpa only [axMap_smul] using perpSq_similar s (0, 0) p a b

/-- FALSE under independent axis scaling: there is no factor `c` with
`perpSq (x doubled) = c · perpSq`.  A horizontal base line gives `c = 1`, a vertical one `c = 4`.
Generators must scale both axes by the same factor when they compare distances (or normalise
first, as the library does). -/
theorem perpSq_not_axScale_homogeneous :
    ¬ ∃ c : Rat, ∀ p a b : P2,
      perpSq (axScale 2 1 p) (axScale 2 1 a) (axScale 2 1 b) = c * perpSq p a b :=
  not_axScale_homogeneous perpSq (0, 1) (0, 0) (1, 0) (1, 0) (0, 0) (0, 1) (by decide +kernel)

theorem shortestSq_similar (s : Rat) (v p a b : P2) :
    shortestSq (axMap s s v p) (axMap s s v a) (axMap s s v b) = s ^ 2 * shortestSq p a b := by
  by_cases hs : s = 0
  · -- all three images are `v`: the `a = b` branch gives `normSq (sub v v) = 0`
    subst hs
    have e : ∀ q : P2, axMap 0 0 v q = v := fun q => by simp [axMap]
    rw [e, e, e, shortestSq_degenerate, normSq_sub_self, zero_pow two_ne_zero, zero_mul]
  · have h2 : (0 : Rat) ≤ s ^ 2 := sq_nonneg s
    simp only [shortestSq, sub_similar, cross_smul_smul, normSq_smul, dot_smul_smul, axMap_inj hs hs]
    split_ifs
    · rfl
    · -- the `0` of `max(S, T, 0)` is written `s² * 0` so that `s²` factors out of the outer `rmax` too
      rw [rmax_mul_left h2, show (0 : Rat) = s ^ 2 * 0 by ring, rmax_mul_left h2]
      rw [mul_zero, mul_mul_mul_comm, mul_mul_mul_comm _ (cross _ _), ← mul_add, mul_assoc,
        mul_mul_div_mul]

/-- `linear_fit.shortest_distance_points` (distance to the closed segment) does not depend on the
origin; the degenerate branch `a == b` is taken for the same inputs. -/
theorem shortestSq_translate (p a b v : P2) :
    shortestSq (p + v) (a + v) (b + v) = shortestSq p a b := by
  simpa only [axMap_one, one_pow, one_mul] using shortestSq_similar 1 v p a b

/-- `shortest_distance_points` is homogeneous of degree 1 (squared: 2) in a common unit, for every
`s`; the clamping `max(S, T, 0)` and the `a == b` branch commute with the scaling. -/
theorem shortestSq_scale (s : Rat) (p a b : P2) :
    shortestSq (s • p) (s • a) (s • b) = s ^ 2 * shortestSq p a b := by
  simpa only [axMap_smul] using shortestSq_similar s (0, 0) p a b

/-- FALSE under independent axis scaling (same two instances as for `perpSq`). -/
theorem shortestSq_not_axScale_homogeneous :
    ¬ ∃ c : Rat, ∀ p a b : P2,
      shortestSq (axScale 2 1 p) (axScale 2 1 a) (axScale 2 1 b) = c * shortestSq p a b :=
  not_axScale_homogeneous shortestSq (0, 1) (0, 0) (1, 0) (1, 0) (0, 0) (0, 1) (by decide +kernel)

theorem mengerSq_similar (s : Rat) (v f g h : P2) :
    mengerSq (axMap s s v f) (axMap s s v g) (axMap s s v h) = mengerSq f g h / s ^ 2 := by
  simp only [mengerSq, sub_similar, cross_smul_smul, normSq_smul]
  rcases eq_or_ne (s ^ 2) 0 with hk | hk
  · -- both sides are a division by zero
    simp [hk]
  · -- collect the factors `k = s²`: `k·k` above, `k·k·k` below
    generalize s ^ 2 = k at hk ⊢
    generalize cross _ _ = c
    generalize normSq (sub g f) = n1
    generalize normSq (sub h g) = n2
    generalize normSq (sub f h) = n3
    rw [div_div, mul_left_comm 4 k c, mul_mul_mul_comm k (4 * c) k c, mul_mul_mul_comm k n1 k n2,
      mul_mul_mul_comm (k * k) (n1 * n2) k n3, mul_assoc (k * k) k,
      mul_div_mul_left _ _ (mul_ne_zero hk hk), mul_comm k]

/-- `menger.menger_curvature` does not depend on the origin. -/
theorem mengerSq_translate (f g h v : P2) :
    mengerSq (f + v) (g + v) (h + v) = mengerSq f g h := by
  simpa only [axMap_one, one_pow, div_one] using mengerSq_similar 1 v f g h

/-- Curvature is homogeneous of degree −1 (squared: −2) in a common unit, for every `s`
(`s = 0` gives `0 = x / 0`): blowing a curve up by `s` divides the Menger curvature by `|s|`, so
the *ranking* of the points by curvature (all `menger` uses) does not change. -/
theorem mengerSq_scale (s : Rat) (f g h : P2) :
    mengerSq (s • f) (s • g) (s • h) = mengerSq f g h / s ^ 2 := by
  simpa only [axMap_smul] using mengerSq_similar s (0, 0) f g h

/-- Menger curvature is invariant under the cyclic permutation of its arguments; together with
`mengerSq_symm_swap12` / `mengerSq_symm_swap23` (C17) this covers all six permutations. -/
theorem mengerSq_rotate (f g h : P2) : mengerSq f g h = mengerSq g h f := by
  rw [mengerSq_symm_swap12 f g h, mengerSq_symm_swap23 g f h]

/-- Menger curvature does not depend on the direction in which the curve is traversed. -/
theorem mengerSq_reverse (f g h : P2) : mengerSq f g h = mengerSq h g f := by
  rw [mengerSq_rotate f g h, mengerSq_symm_swap12 g h f]

theorem mengerSq_rotate' (f g h : P2) : mengerSq f g h = mengerSq h f g := by
  rw [mengerSq_rotate f g h, mengerSq_rotate g h f]

/-- FALSE under independent axis scaling: curvature is not a unit-free notion when the two axes
carry different units (the library normalises the curve before calling `menger`). -/
theorem mengerSq_not_axScale_homogeneous :
    ¬ ∃ c : Rat, ∀ f g h : P2,
      mengerSq (axScale 2 1 f) (axScale 2 1 g) (axScale 2 1 h) = c * mengerSq f g h :=
  not_axScale_homogeneous mengerSq (0, 0) (1, 0) (0, 1) (0, 0) (1, 1) (2, 0) (by decide +kernel)

/-- `knee_ranking.rect` commutes with a change of units and origin (positive — here even
non-negative — factors keep "lower-left / upper-right"). -/
theorem rect_axMap {sx sy : Rat} (hx : 0 ≤ sx) (hy : 0 ≤ sy) (v p q : P2) :
    rect (axMap sx sy v p) (axMap sx sy v q)
      = (axMap sx sy v (rect p q).1, axMap sx sy v (rect p q).2) := by
  simp only [rect, axMap, rmin_affine hx, rmin_affine hy, rmax_affine hx, rmax_affine hy]

/-- `knee_ranking.rect_overlap` (IoU) is invariant under translation and *independent* positive
scaling of the two axes: overlap area and union area both pick up the factor `sx·sy`, and the test
`overlap > 0` is unaffected.  The corner filter threshold `t` on the IoU is therefore unit-free;
any magnitude dependence of `filter_corner_knees` comes from rounding only. -/
theorem rectOverlap_axMap {sx sy : Rat} (hx : 0 < sx) (hy : 0 < sy) (v amin amax bmin bmax : P2) :
    rectOverlap (axMap sx sy v amin) (axMap sx sy v amax) (axMap sx sy v bmin) (axMap sx sy v bmax)
      = rectOverlap amin amax bmin bmax := by
  have hxy : 0 < sx * sy := mul_pos hx hy
  simp only [rectOverlap_eq, axMap, ovl_affine hx.le, ovl_affine hy.le, affine_sub, abs_mul,
    abs_of_pos hx, abs_of_pos hy, mul_mul_mul_comm sx _ sy]
  rw [← mul_add, ← mul_sub, mul_div_mul_left _ _ hxy.ne']
  simp only [mul_pos_iff_of_pos_left hxy]

theorem rectOverlap_translate (v amin amax bmin bmax : P2) :
    rectOverlap (amin + v) (amax + v) (bmin + v) (bmax + v) = rectOverlap amin amax bmin bmax := by
  simpa only [axMap_one] using rectOverlap_axMap one_pos one_pos v amin amax bmin bmax

theorem rectOverlap_axScale {sx sy : Rat} (hx : 0 < sx) (hy : 0 < sy) (amin amax bmin bmax : P2) :
    rectOverlap (axScale sx sy amin) (axScale sx sy amax) (axScale sx sy bmin) (axScale sx sy bmax)
      = rectOverlap amin amax bmin bmax := by
  simpa only [axMap_zero] using rectOverlap_axMap hx hy (0, 0) amin amax bmin bmax

/-- The corner score of a knee (IoU of the corner rectangle and the neighbour rectangle, what
`filter_corner_knees` / `select_corner_knees` threshold) is invariant under translation and
independent positive scaling of the axes. -/
theorem cornerIoU_axMap {sx sy : Rat} (hx : 0 < sx) (hy : 0 < sy) (v p0 p1 p2 : P2) :
    cornerIoU (axMap sx sy v p0) (axMap sx sy v p1) (axMap sx sy v p2) = cornerIoU p0 p1 p2 := by
  have hc : ((axMap sx sy v p0).1, (axMap sx sy v p2).2) = axMap sx sy v (p0.1, p2.2) := rfl
  simp only [cornerIoU, hc, rect_axMap hx.le hy.le, rectOverlap_axMap hx hy]

theorem cornerIoU_translate (v p0 p1 p2 : P2) :
    cornerIoU (p0 + v) (p1 + v) (p2 + v) = cornerIoU p0 p1 p2 := by
  simpa only [axMap_one] using cornerIoU_axMap one_pos one_pos v p0 p1 p2

theorem cornerIoU_axScale {sx sy : Rat} (hx : 0 < sx) (hy : 0 < sy) (p0 p1 p2 : P2) :
    cornerIoU (axScale sx sy p0) (axScale sx sy p1) (axScale sx sy p2) = cornerIoU p0 p1 p2 := by
  simpa only [axMap_zero] using cornerIoU_axMap hx hy (0, 0) p0 p1 p2

/-- Hence `filter_corner_knees` returns the same knees for a curve and for its image under a change
of units/origin (`pt` = the curve, `iou k` computed from `pt (k-1)`, `pt k`, `pt (k+1)`). -/
theorem cornerFilter_axMap {sx sy : Rat} (hx : 0 < sx) (hy : 0 < sy) (v : P2) (pt : Nat → P2)
    (n : Nat) (t : Rat) (ks : List Nat) :
    cornerFilter n (fun k => cornerIoU (axMap sx sy v (pt (k - 1))) (axMap sx sy v (pt k))
        (axMap sx sy v (pt (k + 1)))) t ks
      = cornerFilter n (fun k => cornerIoU (pt (k - 1)) (pt k) (pt (k + 1))) t ks := by
  simp only [cornerIoU_axMap hx hy]

/-- Under independent axis scaling and a translation the orientation determinant `convex_hull._ccw`
is multiplied by `sx·sy`. -/
theorem ccw_axMap (sx sy : Rat) (v a b c : P2) :
    ccw (axMap sx sy v a) (axMap sx sy v b) (axMap sx sy v c) = sx * sy * ccw a b c := by
  simp only [ccw, axMap]; ring

theorem ccw_translate (a b c v : P2) : ccw (a + v) (b + v) (c + v) = ccw a b c := by
  simpa only [axMap_one, one_mul] using ccw_axMap 1 1 v a b c

theorem ccw_axScale (sx sy : Rat) (a b c : P2) :
    ccw (axScale sx sy a) (axScale sx sy b) (axScale sx sy c) = sx * sy * ccw a b c := by
  simpa only [axMap_zero] using ccw_axMap sx sy (0, 0) a b c

theorem ccw_scale (s : Rat) (a b c : P2) : ccw (s • a) (s • b) (s • c) = s ^ 2 * ccw a b c := by
  simpa only [axMap_smul, sq] using ccw_axMap s s (0, 0) a b c

/-- Unlike distances, the triangle area is also well behaved under *independent* axis scaling: it is
multiplied by `sx·sy`, so its sign (orientation of the corner) is unit-free for `sx·sy > 0`. -/
theorem triArea_axMap (sx sy : Rat) (v p0 p1 p2 : P2) :
    triArea (axMap sx sy v p0) (axMap sx sy v p1) (axMap sx sy v p2)
      = sx * sy * triArea p0 p1 p2 := by
  simp only [triArea, axMap]; ring

/-- `postprocessing.triangle_area` (signed) does not depend on the origin. -/
theorem triArea_translate (p0 p1 p2 v : P2) :
    triArea (p0 + v) (p1 + v) (p2 + v) = triArea p0 p1 p2 := by
  simpa only [axMap_one, one_mul] using triArea_axMap 1 1 v p0 p1 p2

/-- `triangle_area` is homogeneous of degree 2 in a common unit (sign included, every `s`). -/
theorem triArea_scale (s : Rat) (p0 p1 p2 : P2) :
    triArea (s • p0) (s • p1) (s • p2) = s ^ 2 * triArea p0 p1 p2 := by
  simpa only [axMap_smul, sq] using triArea_axMap s s (0, 0) p0 p1 p2

/-- The only thing the scans look at — `ccw(...) <= 0` — is unchanged by a change of units and
origin with `sx·sy > 0` (in particular `sx, sy > 0`).  Exact ties (`ccw = 0`, collinear points)
stay ties: that is where float and exact results may differ at extreme magnitude. -/
theorem ccw_sign_axMap {sx sy : Rat} (h : 0 < sx * sy) (v a b c : P2) :
    ccw (axMap sx sy v a) (axMap sx sy v b) (axMap sx sy v c) ≤ 0 ↔ ccw a b c ≤ 0 := by
  rw [ccw_axMap, ← not_lt, ← not_lt, mul_pos_iff_of_pos_left h]

/-- The pop loop of `graham_scan_lower` pops exactly the same stack entries for the transformed
curve, for every stack and every new point. -/
theorem popLower_axMap {sx sy : Rat} (h : 0 < sx * sy) (v : P2) (pt : Nat → P2) (i : Nat)
    (st : List Nat) : popLower (axMap sx sy v ∘ pt) i st = popLower pt i st :=
  popLower_congr pt _ (fun a b c => ccw_sign_axMap h v (pt a) (pt b) (pt c)) i st

theorem popUpper_axMap {sx sy : Rat} (h : 0 < sx * sy) (v : P2) (pt : Nat → P2) (i : Nat)
    (st : List Nat) : popUpper (axMap sx sy v ∘ pt) i st = popUpper pt i st :=
  popUpper_congr pt _ (fun a b c => ccw_sign_axMap h v (pt a) (pt b) (pt c)) i st

/-- `graham_scan_lower` returns the same index list for a curve and for its image under
translation and independent positive axis scaling (whole scan, any `n`). -/
theorem hullLower_axMap {sx sy : Rat} (h : 0 < sx * sy) (v : P2) (pt : Nat → P2) (n : Nat) :
    hullLower (fun i => axMap sx sy v (pt i)) n = hullLower pt n :=
  hullLower_congr pt _ (fun a b c => ccw_sign_axMap h v (pt a) (pt b) (pt c)) n

theorem hullUpper_axMap {sx sy : Rat} (h : 0 < sx * sy) (v : P2) (pt : Nat → P2) (n : Nat) :
    hullUpper (fun i => axMap sx sy v (pt i)) n = hullUpper pt n :=
  hullUpper_congr pt _ (fun a b c => ccw_sign_axMap h v (pt a) (pt b) (pt c)) n

theorem hullLower_translate (v : P2) (pt : Nat → P2) (n : Nat) :
    hullLower (fun i => pt i + v) n = hullLower pt n := by
  simpa only [axMap_one] using hullLower_axMap (mul_pos one_pos one_pos) v pt n

theorem hullUpper_translate (v : P2) (pt : Nat → P2) (n : Nat) :
    hullUpper (fun i => pt i + v) n = hullUpper pt n := by
  simpa only [axMap_one] using hullUpper_axMap (mul_pos one_pos one_pos) v pt n

theorem hullLower_axScale {sx sy : Rat} (hx : 0 < sx) (hy : 0 < sy) (pt : Nat → P2) (n : Nat) :
    hullLower (fun i => axScale sx sy (pt i)) n = hullLower pt n := by
  simpa only [axMap_zero] using hullLower_axMap (mul_pos hx hy) (0, 0) pt n

theorem hullUpper_axScale {sx sy : Rat} (hx : 0 < sx) (hy : 0 < sy) (pt : Nat → P2) (n : Nat) :
    hullUpper (fun i => axScale sx sy (pt i)) n = hullUpper pt n := by
  simpa only [axMap_zero] using hullUpper_axMap (mul_pos hx hy) (0, 0) pt n

/-- `add_points_even`: the "segment is wide and tall enough" decision compares *normalised* width
and height with the unit-free thresholds `2·tx`, `ty`; it is unchanged when all x's (`xl`, `xr`
and the curve extent `dx`) are scaled by `sx > 0` and shifted, and all y's by `sy > 0` and
shifted. -/
theorem wideQ_axMap {sx sy : Rat} (hx : 0 < sx) (hy : 0 < sy)
    (cx cy xl yl xr yr dx dy tx ty : Rat) :
    wideQ (sx * xl + cx) (sy * yl + cy) (sx * xr + cx) (sy * yr + cy) (sx * dx) (sy * dy) tx ty
      = wideQ xl yl xr yr dx dy tx ty := by
  simp only [wideQ, normExtent_affine hx, normExtent_affine hy]

theorem nptsQ_axMap {sx : Rat} (hx : 0 < sx) (cx xl xr dx tx : Rat) :
    nptsQ (sx * xl + cx) (sx * xr + cx) (sx * dx) tx = nptsQ xl xr dx tx := by
  simp only [nptsQ, normExtent_affine hx]

theorem wideQ_axScale {sx sy : Rat} (hx : 0 < sx) (hy : 0 < sy) (xl yl xr yr dx dy tx ty : Rat) :
    wideQ (sx * xl) (sy * yl) (sx * xr) (sy * yr) (sx * dx) (sy * dy) tx ty
      = wideQ xl yl xr yr dx dy tx ty := by
  simpa using wideQ_axMap hx hy 0 0 xl yl xr yr dx dy tx ty

theorem nptsQ_axScale {sx : Rat} (hx : 0 < sx) (xl xr dx tx : Rat) :
    nptsQ (sx * xl) (sx * xr) (sx * dx) tx = nptsQ xl xr dx tx := by
  simpa using nptsQ_axMap hx 0 xl xr dx tx

/-- `single_linkage`: gap to the previous point over the x range — invariant under
`x ↦ s·x + c`, `s > 0` (the range `L` becomes `s·L`). -/
theorem distSingle_affine {s : Rat} (hs : 0 < s) (c : Rat) (x : Nat → Rat) (L : Rat)
    (start i : Nat) :
    distSingle (fun m => s * x m + c) (s * L) start i = distSingle x L start i := by
  simp only [distSingle, normExtent_affine hs]

/-- `complete_linkage`: distance to the first member of the cluster over the x range. -/
theorem distComplete_affine {s : Rat} (hs : 0 < s) (c : Rat) (x : Nat → Rat) (L : Rat)
    (start i : Nat) :
    distComplete (fun m => s * x m + c) (s * L) start i = distComplete x L start i := by
  simp only [distComplete, normExtent_affine hs]

/-- `centroid_linkage`: distance to the mean of the (non-empty) cluster over the x range. -/
theorem distCentroid_affine {s : Rat} (hs : 0 < s) (c : Rat) (x : Nat → Rat) (L : Rat)
    (start i : Nat) (h : start < i) :
    distCentroid (fun m => s * x m + c) (s * L) start i = distCentroid x L start i := by
  simp only [distCentroid, meanRange_affine s c x start i h, normExtent_affine hs]

/-- FALSE without `start < i`: the mean of an empty cluster is `0/0 = 0`, an absolute constant, so
a shift changes the distance.  Irrelevant for the code (a cluster always has a member) and for the
labels below. -/
theorem distCentroid_not_affine_empty :
    distCentroid (fun m => 1 * (fun _ => (1 : Rat)) m + 1) (1 * 1) 0 0
      ≠ distCentroid (fun _ => (1 : Rat)) 1 0 0 := by
  decide +kernel

/-- `average_linkage`: mean distance to the members over the x range. -/
theorem distAverage_affine {s : Rat} (hs : 0 < s) (c : Rat) (x : Nat → Rat) (L : Rat)
    (start i : Nat) :
    distAverage (fun m => s * x m + c) (s * L) start i = distAverage x L start i := by
  simp only [distAverage]
  have e : (fun m => rabs (s * x m + c - (s * x i + c))) = fun m => s * rabs (x m - x i) + 0 := by
    funext m
    rw [affine_sub, rabs_mul_left hs.le, add_zero]
  rw [e, sumRange_affine, mul_zero, add_zero, mul_left_comm, mul_div_mul_left _ _ hs.ne']

/-- The labels of `single_linkage(points, t)` are the same for `x` and for `s·x + c` (`s > 0`):
the threshold `t` is relative to the x range, so clustering is unit- and origin-free.  Generators
may scale/shift x freely; a different labelling from the float code is then a rounding tie. -/
theorem singleLinkage_affine {s : Rat} (hs : 0 < s) (c : Rat) (x : Nat → Rat) (n : Nat) (t : Rat) :
    singleLinkage (fun m => s * x m + c) n t = singleLinkage x n t :=
  linkage_affine distSingle s c x (fun L st i _ => distSingle_affine hs c x L st i) n t

theorem completeLinkage_affine {s : Rat} (hs : 0 < s) (c : Rat) (x : Nat → Rat) (n : Nat)
    (t : Rat) : completeLinkage (fun m => s * x m + c) n t = completeLinkage x n t :=
  linkage_affine distComplete s c x (fun L st i _ => distComplete_affine hs c x L st i) n t

/-- uses that the skeleton only asks for distances to non-empty clusters (`linkState_congr`) -/
theorem centroidLinkage_affine {s : Rat} (hs : 0 < s) (c : Rat) (x : Nat → Rat) (n : Nat)
    (t : Rat) : centroidLinkage (fun m => s * x m + c) n t = centroidLinkage x n t :=
  linkage_affine distCentroid s c x (fun L st i h => distCentroid_affine hs c x L st i h) n t

theorem averageLinkage_affine {s : Rat} (hs : 0 < s) (c : Rat) (x : Nat → Rat) (n : Nat)
    (t : Rat) : averageLinkage (fun m => s * x m + c) n t = averageLinkage x n t :=
  linkage_affine distAverage s c x (fun L st i _ => distAverage_affine hs c x L st i) n t

/-- The incremental centre of `centroid_linkage` is equivariant: for `s·x + c` (any `s`) it is
`s·centre + c`, with the same size: the centre is the mean of the members (`centroidInc_spec`). -/
theorem centroidInc_affine (s c : Rat) (x : Nat → Rat) (start : Nat) : ∀ k,
    centroidInc (fun m => s * x m + c) start k
      = (s * (centroidInc x start k).1 + c, (centroidInc x start k).2) := by
  intro k
  obtain ⟨h2, h1⟩ := centroidInc_spec x start k
  obtain ⟨h2', h1'⟩ := centroidInc_spec (fun m => s * x m + c) start k
  refine Prod.ext ?_ (h2'.trans h2.symm)
  rw [h1', h1, meanRange_affine s c x start _ (by omega)]

/-- `metrics.residuals` (RSS) under a common `v ↦ s·v + c` of `y` and `ŷ`: degree 2 in `s`, no
dependence on `c`. -/
theorem rssQ_affine (s c : Rat) (y yh : List Rat) :
    rssQ (y.map fun v => s * v + c) (yh.map fun v => s * v + c) = s ^ 2 * rssQ y yh := by
  unfold rssQ
  exact sum_zipWith_map _ _ _ _ _ y yh (fun a _ b _ => by ring)

theorem rssQ_scale (s : Rat) (y yh : List Rat) :
    rssQ (y.map fun v => s * v) (yh.map fun v => s * v) = s ^ 2 * rssQ y yh := by
  simpa using rssQ_affine s 0 y yh

theorem rssQ_shift (c : Rat) (y yh : List Rat) :
    rssQ (y.map fun v => v + c) (yh.map fun v => v + c) = rssQ y yh := by
  simpa using rssQ_affine 1 c y yh

theorem mseQ_affine (s c : Rat) (y yh : List Rat) :
    mseQ (y.map fun v => s * v + c) (yh.map fun v => s * v + c) = s ^ 2 * mseQ y yh := by
  rw [mseQ_eq_rssQ_div, mseQ_eq_rssQ_div, rssQ_affine,
    length_zipWith_map (fun a b => (a - b) * (a - b)), mul_div_assoc]

theorem mseQ_scale (s : Rat) (y yh : List Rat) :
    mseQ (y.map fun v => s * v) (yh.map fun v => s * v) = s ^ 2 * mseQ y yh := by
  simpa using mseQ_affine s 0 y yh

theorem mseQ_shift (c : Rat) (y yh : List Rat) :
    mseQ (y.map fun v => v + c) (yh.map fun v => v + c) = mseQ y yh := by
  simpa using mseQ_affine 1 c y yh

/-- total sum of squares: degree 2, shift invariant (the mean moves along) -/
theorem tssQ_affine (s c : Rat) (y : List Rat) :
    tssQ (y.map fun v => s * v + c) = s ^ 2 * tssQ y :=
  sum_map_map (fun a => (a - meanQ y) * (a - meanQ y)) _ _ (s ^ 2) y fun a ha => by
    rw [meanQ_affine s c y (List.ne_nil_of_mem ha)]
    ring

/-- `metrics.r2` is invariant under a common `v ↦ s·v + c` (`s ≠ 0`) of `y` and `ŷ` whenever `y`
is not constant (`tss ≠ 0`): R² is unit- and origin-free. -/
theorem r2Q_affine {s : Rat} (hs : s ≠ 0) (c : Rat) (y yh : List Rat) (ht : tssQ y ≠ 0) :
    r2Q (y.map fun v => s * v + c) (yh.map fun v => s * v + c) = r2Q y yh := by
  have h2 : s ^ 2 ≠ 0 := pow_ne_zero 2 hs
  unfold r2Q
  rw [tssQ_affine, rssQ_affine, if_neg ht, if_neg (mul_ne_zero h2 ht), mul_div_mul_left _ _ h2]

theorem r2Q_scale {s : Rat} (hs : s ≠ 0) (y yh : List Rat) (ht : tssQ y ≠ 0) :
    r2Q (y.map fun v => s * v) (yh.map fun v => s * v) = r2Q y yh := by
  simpa using r2Q_affine hs 0 y yh ht

/-- For constant `y` (`tss = 0`) the code's fallback `1 - rss` is an absolute quantity: it scales
with `s²`.  This is the only magnitude dependence of `r2`. -/
theorem r2Q_affine_const (s c : Rat) (y yh : List Rat) (ht : tssQ y = 0) :
    r2Q (y.map fun v => s * v + c) (yh.map fun v => s * v + c) = 1 - s ^ 2 * rssQ y yh := by
  unfold r2Q
  rw [tssQ_affine, rssQ_affine, ht, mul_zero, if_pos rfl]

/-- `r2` is invariant under a common shift `y + c`, `ŷ + c`, for all inputs (constant `y`
included). -/
theorem r2Q_shift (c : Rat) (y yh : List Rat) :
    r2Q (y.map fun v => v + c) (yh.map fun v => v + c) = r2Q y yh := by
  rw [show (fun v : Rat => v + c) = fun v => 1 * v + c from funext fun v => by rw [one_mul]]
  by_cases ht : tssQ y = 0
  · rw [r2Q_affine_const 1 c y yh ht, one_pow, one_mul, r2Q, if_pos ht]
  · exact r2Q_affine one_ne_zero c y yh ht

/-- FALSE without `tss ≠ 0`: `y = [1,1]`, `ŷ = [0,0]` has `r2 = -1`, doubled `r2 = -7`.  Generators
that scale `y` must keep constant-`y` cases apart (expected value `1 - s²·rss`). -/
theorem r2Q_not_scale_invariant :
    ¬ ∀ (s : Rat) (y yh : List Rat), 0 < s →
      r2Q (y.map fun v => s * v) (yh.map fun v => s * v) = r2Q y yh :=
  not_scale_invariant r2Q [1, 1] [0, 0] (by decide +kernel)

/-- Squared Pearson correlation (the R² of the best linear fit) is invariant under independent
affine maps `x ↦ a·x + b`, `y ↦ c·y + d` with `a, c ≠ 0` (sign changes included). -/
theorem corrSqQ_affine {a c : Rat} (ha : a ≠ 0) (hc : c ≠ 0) (b d : Rat) (x y : List Rat) :
    corrSqQ (x.map fun v => a * v + b) (y.map fun v => c * v + d) = corrSqQ x y := by
  simp only [corrSqQ]
  -- the two sums of squares are `tssQ`
  change _ / (tssQ _ * tssQ _) = _ / (tssQ x * tssQ y)
  rw [tssQ_affine, tssQ_affine,
    sum_zipWith_map (fun u v => (u - meanQ x) * (v - meanQ y)) _ _ _ (a * c) x y fun u hu v hv => by
      rw [meanQ_affine a b x (List.ne_nil_of_mem hu), meanQ_affine c d y (List.ne_nil_of_mem hv),
        affine_sub, affine_sub, mul_mul_mul_comm]]
  have hk : a ^ 2 * c ^ 2 ≠ 0 := mul_ne_zero (pow_ne_zero 2 ha) (pow_ne_zero 2 hc)
  rw [mul_mul_mul_comm (a * c), ← sq (a * c), mul_pow, mul_mul_mul_comm (a ^ 2) (tssQ x),
    mul_div_mul_left _ _ hk]

/-! ### the eps-guarded ratio metrics: the absolute guard `eps = 1e-16` is the only scale dependence -/

theorem smapeE_scale {s : Rat} (hs : 0 < s) (e : Rat) (y yh : List Rat) :
    smapeE (s * e) (y.map fun v => s * v) (yh.map fun v => s * v) = smapeE e y yh := by
  unfold smapeE
  apply meanQ_zipWith_map
  intro a b
  rw [← mul_sub, rabs_mul_left hs.le, rabs_mul_left hs.le, rabs_mul_left hs.le, mul_left_comm,
    ← mul_add, ← mul_add, mul_div_mul_left _ _ hs.ne']

theorem rpdE_scale {s : Rat} (hs : 0 < s) (e : Rat) (y yh : List Rat) :
    rpdE (s * e) (y.map fun v => s * v) (yh.map fun v => s * v) = rpdE e y yh := by
  unfold rpdE
  apply meanQ_zipWith_map
  intro a b
  rw [if_congr (mul_le_mul_iff_right₀ hs) rfl rfl, ← mul_ite, ← mul_sub, ← mul_add,
    mul_div_mul_left _ _ hs.ne']

theorem rmspeSqE_scale {s : Rat} (hs : s ≠ 0) (e : Rat) (y yh : List Rat) :
    rmspeSqE (s * e) (y.map fun v => s * v) (yh.map fun v => s * v) = rmspeSqE e y yh := by
  unfold rmspeSqE
  apply meanQ_zipWith_map
  intro a b
  rw [← mul_sub, ← mul_add, mul_div_mul_left _ _ hs]

/-- `metrics.smape` on data scaled by `s > 0` equals SMAPE on the original data with the guard
`eps/s`: at 1e-9 scale the guard acts like `1e-7`, at 1e9 scale like `1e-25`.  Nothing else in
the definition depends on the scale.  Generators must therefore expect (small, computable)
differences between magnitude variants for these metrics, and none for the others. -/
theorem smapeQ_scale {s : Rat} (hs : 0 < s) (y yh : List Rat) :
    smapeQ (y.map fun v => s * v) (yh.map fun v => s * v) = smapeE (epsM / s) y yh := by
  rw [smapeQ_eq, ← smapeE_scale hs (epsM / s), mul_div_cancel₀ _ hs.ne']

theorem rpdQ_scale {s : Rat} (hs : 0 < s) (y yh : List Rat) :
    rpdQ (y.map fun v => s * v) (yh.map fun v => s * v) = rpdE (epsM / s) y yh := by
  rw [rpdQ_eq, ← rpdE_scale hs (epsM / s), mul_div_cancel₀ _ hs.ne']

theorem rmspeSq_scale {s : Rat} (hs : s ≠ 0) (y yh : List Rat) :
    rmspeSq (y.map fun v => s * v) (yh.map fun v => s * v) = rmspeSqE (epsM / s) y yh := by
  rw [rmspeSq_eq, ← rmspeSqE_scale hs (epsM / s), mul_div_cancel₀ _ hs]

/-- FALSE: `smape([1],[2]) = 2/(3+eps) ≠ 4/(6+eps) = smape([2],[4])`. -/
theorem smapeQ_not_scale_invariant :
    ¬ ∀ (s : Rat) (y yh : List Rat), 0 < s →
      smapeQ (y.map fun v => s * v) (yh.map fun v => s * v) = smapeQ y yh :=
  not_scale_invariant smapeQ [1] [2] (by decide +kernel)

/-- FALSE: `rpd([1],[2]) = 1/(2+eps) ≠ 2/(4+eps) = rpd([2],[4])`. -/
theorem rpdQ_not_scale_invariant :
    ¬ ∀ (s : Rat) (y yh : List Rat), 0 < s →
      rpdQ (y.map fun v => s * v) (yh.map fun v => s * v) = rpdQ y yh :=
  not_scale_invariant rpdQ [1] [2] (by decide +kernel)

/-- FALSE: `rmspe²([1],[2]) = 1/(1+eps)² ≠ 4/(2+eps)² = rmspe²([2],[4])`. -/
theorem rmspeSq_not_scale_invariant :
    ¬ ∀ (s : Rat) (y yh : List Rat), 0 < s →
      rmspeSq (y.map fun v => s * v) (yh.map fun v => s * v) = rmspeSq y yh :=
  not_scale_invariant rmspeSq [1] [2] (by decide +kernel)

/-- Min-max normalisation `(v - min)/(max - min)` (with the code's `diff == 0 → 1` replacement) is
invariant under `v ↦ s·v + c`, `s > 0`, for every list: Kneedle sees the same normalised curve
whatever the units and origin of the input.  (For a constant list all entries equal the minimum, so
the replacement constant `1` is never multiplied by anything but `0`.) -/
theorem normQ_affine {s : Rat} (hs : 0 < s) (c : Rat) (l : List Rat) :
    normQ (l.map fun v => s * v + c) = normQ l := by
  by_cases hl : l = []
  · subst hl; rfl
  have hmono : Monotone fun v => s * v + c := fun a b h => add_le_add_left (mul_le_mul_of_nonneg_left h hs.le) c
  simp only [normQ]
  rw [listMaxQ_eq_listMax, listMinQ_map hmono hl, listMax_map hmono hl, List.map_map]
  apply List.map_congr_left
  intro v hv
  simp only [Function.comp]
  rw [affine_sub, affine_sub]
  by_cases hd : listMax l - listMinQ l = 0
  · -- a constant list: `v` is the minimum, both numerators vanish
    have h1 := (listMinQ_spec hl).2 v hv
    have h2 := (le_listMax l v hv).trans (sub_eq_zero.1 hd).le
    rw [sub_eq_zero.2 (le_antisymm h2 h1), mul_zero, zero_div, zero_div]
  · rw [if_neg hd, if_neg (mul_ne_zero hs.ne' hd), mul_div_mul_left _ _ hs.ne']

/-- `linear_fit.linear_fit` (line through the first and last point) is covariant: for
`x ↦ sx·x + cx`, `y ↦ sy·y + cy` the slope becomes `(sy/sx)·m` and the intercept
`sy·b + cy - (sy/sx)·m·cx`, provided the end points have different x. -/
theorem fitQ_affine {sx : Rat} (hx : sx ≠ 0) (sy cx cy : Rat) (xs ys : List Rat) (hys : ys ≠ [])
    (h : xs.head?.getD 0 ≠ xs.getLast?.getD 0) :
    fitQ (xs.map fun v => sx * v + cx) (ys.map fun v => sy * v + cy)
      = (sy * (fitQ xs ys).1 + cy - sy / sx * (fitQ xs ys).2 * cx, sy / sx * (fitQ xs ys).2) := by
  have hxs : xs ≠ [] := by rintro rfl; exact h rfl
  have hd : xs.head?.getD 0 - xs.getLast?.getD 0 ≠ 0 := sub_ne_zero.2 h
  simp only [fitQ, head?_getD_map hxs, getLast?_getD_map hxs, head?_getD_map hys,
    getLast?_getD_map hys]
  have hd' : sx * xs.head?.getD 0 + cx - (sx * xs.getLast?.getD 0 + cx) ≠ 0 := by
    rw [affine_sub]
    exact mul_ne_zero hx hd
  -- the new slope is `sy/sx` times the old one; the new line takes the image of `y₀` at the image
  -- of `x₀` (`line_affine`), which settles the intercept
  rw [if_pos hd', if_pos hd, affine_sub, affine_sub, mul_div_mul_comm]
  refine Prod.ext (sub_eq_of_eq_add' ?_) rfl
  rw [mul_comm (sy / sx * _), line_affine hx, mul_comm (xs.head?.getD 0), add_sub_cancel]

theorem lineQ_fit_affine {a : Rat} (ha : a ≠ 0) (b c d : Rat) (xs ys : List Rat) (hys : ys ≠ [])
    (h : xs.head?.getD 0 ≠ xs.getLast?.getD 0) :
    lineQ (xs.map fun v => a * v + c) (fitQ (xs.map fun v => a * v + c) (ys.map fun v => b * v + d))
      = (lineQ xs (fitQ xs ys)).map fun v => b * v + d := by
  rw [fitQ_affine ha b c d xs ys hys h]
  unfold lineQ
  rw [List.map_map, List.map_map]
  refine List.map_congr_left fun v _ => ?_
  exact line_affine ha b c d _ _ v

/-- `kneedle.differences` for the direction/concavity chosen by `kneedle.knee`: the whole difference
curve is *identical* for a curve and its image under independent positive scaling and translation
of the two axes (slope sign, concavity vote sign and both normalisations are preserved), provided the
first and last x differ (always true for an x-sorted curve with two distinct x's). -/
theorem kneedleDiffQ_affine {sx sy : Rat} (hx : 0 < sx) (hy : 0 < sy) (cx cy : Rat) (xs ys : List Rat)
    (h : xs.head?.getD 0 ≠ xs.getLast?.getD 0) :
    kneedleDiffQ (xs.map fun v => sx * v + cx) (ys.map fun v => sy * v + cy) = kneedleDiffQ xs ys := by
  by_cases hys : ys = []
  · subst hys
    simp only [kneedleDiffQ, normQ, List.map_nil, List.zipWith_nil_right]
  have hm : (0 < sy / sx * (fitQ xs ys).2) ↔ 0 < (fitQ xs ys).2 :=
    mul_pos_iff_of_pos_left (div_pos hy hx)
  have hvote : (List.zipWith (fun x y => y - (x * (sy / sx * (fitQ xs ys).2)
        + (sy * (fitQ xs ys).1 + cy - sy / sx * (fitQ xs ys).2 * cx)))
        (xs.map fun v => sx * v + cx) (ys.map fun v => sy * v + cy)).sum
      = sy * (List.zipWith (fun x y => y - (x * (fitQ xs ys).2 + (fitQ xs ys).1)) xs ys).sum :=
    sum_zipWith_map _ _ _ _ sy xs ys
      (fun a _ b _ => by rw [line_affine hx.ne', mul_sub, add_sub_add_right_eq_sub])
  simp only [kneedleDiffQ, fitQ_affine hx.ne' sy cx cy xs ys hys h, normQ_affine hx, normQ_affine hy,
    hvote, hm, mul_pos_iff_of_pos_left hy]

/-- Hence `kneedle.knee(points, t=0)` returns the same index at 1e-9 scale, at 1e9 scale and with
any offsets: a magnitude-dependent answer of the float code is a rounding tie in the peak search. -/
theorem kneedleKneeQ_affine {sx sy : Rat} (hx : 0 < sx) (hy : 0 < sy) (cx cy : Rat) (xs ys : List Rat)
    (h : xs.head?.getD 0 ≠ xs.getLast?.getD 0) :
    kneedleKneeQ (xs.map fun v => sx * v + cx) (ys.map fun v => sy * v + cy) = kneedleKneeQ xs ys := by
  simp only [kneedleKneeQ, kneedleDiffQ_affine hx hy cx cy xs ys h]

/-- FALSE without the end-point hypothesis: when the first and last x coincide the code falls back
to the line `(0, 0)`, the concavity vote becomes `Σ y` — an absolute quantity — and a shift of `y`
flips it.  Generators must keep `x[0] ≠ x[-1]` (they do: curves are x-sorted). -/
theorem kneedleDiffQ_not_shift_invariant_degenerate :
    kneedleDiffQ ([0, 1, 0].map fun v => 1 * v + 0) ([1, 2, 3].map fun v => 1 * v + (-10))
      ≠ kneedleDiffQ [0, 1, 0] [1, 2, 3] := by
  decide +kernel

/-- scale 1e9 and an offset of 1e9: both sides are the same number, and it is not zero -/
example : perpSq ((1, 3) + (1000000000, -1000000000)) ((0, 0) + (1000000000, -1000000000))
    ((4, 2) + (1000000000, -1000000000)) = 5 ∧ perpSq ((1, 3) : P2) (0, 0) (4, 2) = 5 := by
  decide +kernel
example : perpSq ((1000000000 : Rat) • ((1, 3) : P2)) ((1000000000 : Rat) • ((0, 0) : P2))
    ((1000000000 : Rat) • ((4, 2) : P2)) = 1000000000 ^ 2 * 5 := by decide +kernel
example : shortestSq (((1 : Rat) / 1000000000) • ((6, 3) : P2)) (((1 : Rat) / 1000000000) • ((0, 0) : P2))
    (((1 : Rat) / 1000000000) • ((4, 2) : P2)) = (1 / 1000000000) ^ 2 * shortestSq ((6, 3) : P2) (0, 0) (4, 2)
    ∧ shortestSq ((6, 3) : P2) (0, 0) (4, 2) = 5 := by decide +kernel
example : mengerSq ((3 : Rat) • ((0, 0) : P2)) ((3 : Rat) • ((1, 1) : P2)) ((3 : Rat) • ((2, 0) : P2)) = 1 / 9
    ∧ mengerSq ((0, 0) : P2) (1, 1) (2, 0) = 1
    ∧ mengerSq (((0, 0) : P2) + (7, -5)) ((1, 1) + (7, -5)) ((2, 0) + (7, -5)) = 1 := by decide +kernel
example : triArea ((2 : Rat) • ((0, 0) : P2)) ((2 : Rat) • ((4, 0) : P2)) ((2 : Rat) • ((0, 3) : P2)) = 24
    ∧ triArea ((0, 0) : P2) (4, 0) (0, 3) = 6 := by decide +kernel

/-- IoU `1/7` before and after `x ↦ 1e9·x + 5`, `y ↦ 1e-9·y - 3` -/
example : rectOverlap ((0, 0) : P2) (2, 2) (1, 1) (3, 3) = 1 / 7
    ∧ rectOverlap (axMap 1000000000 (1 / 1000000000) (5, -3) (0, 0))
        (axMap 1000000000 (1 / 1000000000) (5, -3) (2, 2))
        (axMap 1000000000 (1 / 1000000000) (5, -3) (1, 1))
        (axMap 1000000000 (1 / 1000000000) (5, -3) (3, 3)) = 1 / 7 := by decide +kernel
example : cornerIoU ((0, 10) : P2) (1, 2) (10, 0) = 1 / 50
    ∧ cornerIoU (axMap 3 (1 / 7) (100, 200) (0, 10)) (axMap 3 (1 / 7) (100, 200) (1, 2))
        (axMap 3 (1 / 7) (100, 200) (10, 0)) = 1 / 50 := by decide +kernel

/-- a convex-then-concave curve: same chains after `x ↦ 1e-9·x + 1e9`, `y ↦ 1e9·y - 1e9` -/
example :
    let pt : Nat → P2 := fun i => ([(0, 0), (1, 3), (2, 1), (3, 4), (4, 0), (5, 5)] : List P2)[i]?.getD (0, 0)
    hullLower pt 6 = [0, 4, 5] ∧ hullUpper pt 6 = [0, 1, 5]
    ∧ hullLower (axMap (1 / 1000000000) 1000000000 (1000000000, -1000000000) ∘ pt) 6 = [0, 4, 5]
    ∧ hullUpper (axMap (1 / 1000000000) 1000000000 (1000000000, -1000000000) ∘ pt) 6 = [0, 1, 5] := by
  decide +kernel
/-- the sign hypothesis matters: a reflection (`sx·sy < 0`) swaps the chains -/
example :
    let pt : Nat → P2 := fun i => ([(0, 0), (1, 3), (2, 1), (3, 4), (4, 0), (5, 5)] : List P2)[i]?.getD (0, 0)
    hullLower (axMap 1 (-1) (0, 0) ∘ pt) 6 = [0, 1, 5] := by
  decide +kernel

example : wideQ 2 10 8 4 10 10 (1 / 10) (1 / 10) = true ∧ nptsQ 2 8 10 (1 / 10) = 3
    ∧ wideQ (1000000000 * 2 + 7) (10 / 1000000000 - 7) (1000000000 * 8 + 7) (4 / 1000000000 - 7)
        (1000000000 * 10) (10 / 1000000000) (1 / 10) (1 / 10) = true
    ∧ nptsQ (1000000000 * 2 + 7) (1000000000 * 8 + 7) (1000000000 * 10) (1 / 10) = 3 := by
  decide +kernel

example :
    let x : Nat → Rat := fun i => ([0, 1, 2, 10, 11] : List Rat)[i]?.getD 0
    let x' : Nat → Rat := fun m => (1 / 1000000000) * x m + 1000000000
    singleLinkage x 5 (1 / 2) = [0, 0, 0, 1, 1] ∧ singleLinkage x' 5 (1 / 2) = [0, 0, 0, 1, 1]
    ∧ completeLinkage x 5 (1 / 10) = [0, 0, 1, 2, 2] ∧ completeLinkage x' 5 (1 / 10) = [0, 0, 1, 2, 2]
    ∧ centroidLinkage x 5 (1 / 10) = centroidLinkage x' 5 (1 / 10)
    ∧ averageLinkage x 5 (1 / 10) = averageLinkage x' 5 (1 / 10)
    ∧ centroidLinkage x 5 (1 / 10) = [0, 0, 1, 2, 2] ∧ averageLinkage x 5 (1 / 10) = [0, 0, 1, 2, 2] := by
  decide +kernel

example : r2Q [1, 2, 4] [1, 3, 3] = 4 / 7
    ∧ r2Q ([1, 2, 4].map fun v => 1000000000 * v + 5) ([1, 3, 3].map fun v => 1000000000 * v + 5) = 4 / 7 := by
  decide +kernel
example : tssQ [1, 2, 4] ≠ 0 := by decide +kernel
example : rssQ ([1, 2, 4].map fun v => 3 * v + 5) ([1, 3, 3].map fun v => 3 * v + 5) = 18
    ∧ rssQ [1, 2, 4] [1, 3, 3] = 2 ∧ mseQ [1, 2, 4] [1, 3, 3] = 2 / 3
    ∧ mseQ ([1, 2, 4].map fun v => 3 * v + 5) ([1, 3, 3].map fun v => 3 * v + 5) = 6 := by
  decide +kernel
example : corrSqQ [0, 1, 2, 3] [1, 3, 2, 5] = 121 / 175
    ∧ corrSqQ ([0, 1, 2, 3].map fun v => (-1000000000) * v + 3)
        ([1, 3, 2, 5].map fun v => (1 / 1000000000) * v - 8) = 121 / 175 := by decide +kernel
/-- the guard really is what moves: with the guard scaled along, the values agree -/
example : smapeE (2 * epsM) ([1].map fun v => 2 * v) ([2].map fun v => 2 * v) = smapeQ [1] [2]
    ∧ smapeQ ([1].map fun v => 2 * v) ([2].map fun v => 2 * v) ≠ smapeQ [1] [2] := by
  decide +kernel

example : normQ [2, 5, 3] = [0, 1, 1 / 3]
    ∧ normQ ([2, 5, 3].map fun v => (1 / 1000000000) * v + 1000000000) = [0, 1, 1 / 3]
    ∧ normQ ([4, 4].map fun v => 3 * v + 1) = normQ [4, 4] := by decide +kernel
example : kneedleKneeQ [0, 1, 2, 3, 4, 5] [0, 5, 8, 9, 19 / 2, 10] = some 2
    ∧ kneedleKneeQ ([0, 1, 2, 3, 4, 5].map fun v => 1000000000 * v + 7)
        ([0, 5, 8, 9, 19 / 2, 10].map fun v => (1 / 1000000000) * v - 1000000000) = some 2 := by
  decide +kernel

end Knee
