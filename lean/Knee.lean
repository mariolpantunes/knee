import Knee.Model.Basic
import Knee.Model.Cluster
import Knee.Model.ClusterFilter
import Knee.Model.Cm
import Knee.Model.DetectM
import Knee.Model.Detectors
import Knee.Model.Elbow
import Knee.Model.EvalTrace
import Knee.Model.EvenPoints
import Knee.Model.Filters
import Knee.Model.Geometry
import Knee.Model.GlobalCost
import Knee.Model.Hull
import Knee.Model.Isodata
import Knee.Model.KneedleQ
import Knee.Model.Knees2
import Knee.Model.LMethodQ
import Knee.Model.Link
import Knee.Model.Mapping
import Knee.Model.Matching
import Knee.Model.Metrics
import Knee.Model.MultiKnee
import Knee.Model.Neighbourhood
import Knee.Model.Pipeline
import Knee.Model.PipelineCfg
import Knee.Model.PipelineCfgM
import Knee.Model.PipelineFull
import Knee.Model.PostM
import Knee.Model.Ranking
import Knee.Model.Rdp
import Knee.Model.RdpM
import Knee.Model.Wire
import Knee.Model.ZMethod
import Knee.Generated.LinkTable
import Knee.Lemmas.AbsMaxMin
import Knee.Lemmas.Adj
import Knee.Lemmas.Basic
import Knee.Lemmas.Bridge
import Knee.Lemmas.BridgeCfg
import Knee.Lemmas.Cluster
import Knee.Lemmas.ClusterFilter
import Knee.Lemmas.Cm
import Knee.Lemmas.Detectors
import Knee.Lemmas.ElbowCriteria
import Knee.Lemmas.ElbowIsodata
import Knee.Lemmas.ElbowKneedle
import Knee.Lemmas.ElbowLMethod
import Knee.Lemmas.EvalTrace
import Knee.Lemmas.EvenPoints
import Knee.Lemmas.Filters
import Knee.Lemmas.Geometry
import Knee.Lemmas.GetD
import Knee.Lemmas.GlobalCost
import Knee.Lemmas.Graham
import Knee.Lemmas.GrahamDeg
import Knee.Lemmas.GrahamSeq
import Knee.Lemmas.Hull
import Knee.Lemmas.InsertSort
import Knee.Lemmas.Invariance
import Knee.Lemmas.IsRdp
import Knee.Lemmas.Knees2
import Knee.Lemmas.ListMinMax
import Knee.Lemmas.Mapping
import Knee.Lemmas.Metrics
import Knee.Lemmas.MultiKnee
import Knee.Lemmas.Neighbourhood
import Knee.Lemmas.Pairs
import Knee.Lemmas.Rabs
import Knee.Lemmas.Rank
import Knee.Lemmas.Rdp
import Knee.Lemmas.Refine
import Knee.Lemmas.SlopeRanking
import Knee.Lemmas.ZMethod
import Knee.Props.C01
import Knee.Props.C01S
import Knee.Props.C02
import Knee.Props.C02D
import Knee.Props.C02S
import Knee.Props.C03
import Knee.Props.C03A
import Knee.Props.C03B
import Knee.Props.C03D
import Knee.Props.C04
import Knee.Props.C05
import Knee.Props.C05S
import Knee.Props.C06
import Knee.Props.C06B
import Knee.Props.C07
import Knee.Props.C07S
import Knee.Props.C08
import Knee.Props.C08E
import Knee.Props.C08F
import Knee.Props.C08G
import Knee.Props.C09
import Knee.Props.C10
import Knee.Props.C10B
import Knee.Props.C10S
import Knee.Props.C11
import Knee.Props.C12
import Knee.Props.C12S
import Knee.Props.C13
import Knee.Props.C14
import Knee.Props.C15
import Knee.Props.C15S
import Knee.Props.C16
import Knee.Props.C16S
import Knee.Props.C17
import Knee.Props.C18
import Knee.Props.C18G
import Knee.Props.C18H
import Knee.Props.C18U
import Knee.Props.C19
import Knee.Props.C19M
import Knee.Props.C19S
import Knee.Props.C20
import Knee.Props.Invariance
import Knee.Props.X01
import Knee.Props.X02
import Knee.Props.X03
/-! The library root: every module of the model (`Knee/Model`), the generated link table, the lemma layer
(`Knee/Lemmas`) and the property files (`Knee/Props`), so that `lake build Knee` checks all of them. -/
